import SpVerif.Model.Hilbert
import SpVerif.Model.Proto
import SpVerif.Props.C07
import SpVerif.Model.GeomProto
import SpVerif.Props.C01
import SpVerif.Props.C02
import SpVerif.Props.C13
import SpVerif.Model.RTreeProto
import SpVerif.Props.C03
import SpVerif.Props.C14
import SpVerif.Props.C15
import SpVerif.Model.Select
import SpVerif.Props.C16
import SpVerif.Model.FramesProto
import SpVerif.Props.C04
import SpVerif.Props.C05
import SpVerif.Props.C08
import SpVerif.Props.C17
import SpVerif.Props.C06
import SpVerif.Model.Pack
import SpVerif.Props.C09
import SpVerif.Model.ActiveGeom
import SpVerif.Props.C20
import SpVerif.Model.Parquet
import SpVerif.Generated.Registry
import SpVerif.Generated.ParKernels
import SpVerif.Generated.PackSteps
import SpVerif.Props.C11
import SpVerif.Props.C12
import SpVerif.Model.PackFS
import SpVerif.Props.C10
import SpVerif.Props.C19
import SpVerif.Props.C18
import SpVerif.Model.Arrow
import SpVerif.Model.PackProto
import SpVerif.Lemmas.Triangle
import SpVerif.Lemmas.PolyBox
import SpVerif.Lemmas.WindQ
import SpVerif.Lemmas.Arrow
import SpVerif.Lemmas.Bounds
import SpVerif.Lemmas.Winding
