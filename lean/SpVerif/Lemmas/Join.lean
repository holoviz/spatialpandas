import SpVerif.Model.Join
import SpVerif.Lemmas.ListFacts
import Mathlib.Data.List.Nodup
import Mathlib.Data.List.Perm.Basic
/-!
# The merges of `sjoin` seen per key, and per left row

The `left` and `right` merges have one shape: per key (left resp. right position) the pairs with that key, or else one
unmatched row (`group`); membership and `Nodup` are proved for that shape (C05).  `pairs` lists by right row; read by left row the
`left` and `inner` results are a `flatMap` of `rowsOf` over the left rows with their positions (`join_left_rows`, in order;
`join_inner_rows`, up to order), the form in which they meet a partitioned left frame (C06).
-/
namespace SpVerif.Join

/-- the body of the `left` and `right` branches of `join`: the rows of key `a` (`join_left_eq_group`, `join_right_eq_group`) -/
def group (key : Nat × Nat → Nat) (dflt : Nat → Option Nat × Option Nat) (ps : List (Nat × Nat)) (a : Nat) :
    List (Option Nat × Option Nat) :=
  let m := ps.filter (fun p => key p == a)
  if m.isEmpty then [dflt a] else m.map (fun (i, j) => (some i, some j))

section
variable {key : Nat × Nat → Nat} {dflt : Nat → Option Nat × Option Nat} {n a : Nat} {ps : List (Nat × Nat)}
  {x : Option Nat × Option Nat}

theorem mem_group : x ∈ group key dflt ps a ↔
    (∃ p ∈ ps, key p = a ∧ x = (some p.1, some p.2)) ∨ ((∀ p ∈ ps, key p ≠ a) ∧ x = dflt a) := by
  simp only [group, List.isEmpty_iff, List.filter_eq_nil_iff, beq_iff_eq]
  split
  · next he =>
    rw [List.mem_singleton]
    exact ⟨fun h => .inr ⟨he, h⟩, fun h => h.elim (fun ⟨p, hp, hk, _⟩ => absurd hk (he p hp)) (·.2)⟩
  · next he =>
    simp only [List.mem_map, List.mem_filter, beq_iff_eq]
    exact ⟨fun ⟨p, ⟨hp, hk⟩, e⟩ => .inl ⟨p, hp, hk, e.symm⟩,
      fun h => h.elim (fun ⟨p, hp, hk, e⟩ => ⟨p, ⟨hp, hk⟩, e.symm⟩) (fun h => absurd h.1 he)⟩

theorem mem_flatMap_group (hk : ∀ p ∈ ps, key p < n) : x ∈ (List.range n).flatMap (group key dflt ps) ↔
    (∃ p ∈ ps, x = (some p.1, some p.2)) ∨ (∃ a, a < n ∧ (∀ p ∈ ps, key p ≠ a) ∧ x = dflt a) := by
  simp only [List.mem_flatMap, List.mem_range, mem_group]
  constructor
  · rintro ⟨a, ha, ⟨p, hp, -, e⟩ | h⟩
    · exact .inl ⟨p, hp, e⟩
    · exact .inr ⟨a, ha, h⟩
  · rintro (⟨p, hp, e⟩ | ⟨a, ha, h⟩)
    · exact ⟨key p, hk p hp, .inl ⟨p, hp, rfl, e⟩⟩
    · exact ⟨a, ha, .inr h⟩

/-- `rk` reads the key off a result row, so the groups are disjoint -/
theorem nodup_flatMap_group (rk : Option Nat × Option Nat → Option Nat) (h1 : ∀ a, rk (dflt a) = some a)
    (h2 : ∀ p, rk (some p.1, some p.2) = some (key p)) (hps : ps.Nodup) :
    ((List.range n).flatMap (group key dflt ps)).Nodup := by
  have hrk : ∀ a x, x ∈ group key dflt ps a → rk x = some a := by
    intro a x hx
    rcases mem_group.mp hx with ⟨p, -, rfl, rfl⟩ | ⟨-, rfl⟩
    · exact h2 p
    · exact h1 a
  refine List.nodup_flatMap.mpr ⟨fun a _ => ?_, List.nodup_range.imp fun {a b} hne =>
    List.disjoint_left.mpr fun x hx hx' => hne (Option.some.inj ((hrk a x hx).symm.trans (hrk b x hx')))⟩
  simp only [group]
  split
  · exact List.nodup_singleton _
  · exact (hps.filter _).map fun p q h => Prod.ext (Option.some.inj (congrArg Prod.fst h)) (Option.some.inj (congrArg Prod.snd h))

end

open SpVerif.Geom SpVerif.Frames SpVerif.Lists

theorem join_left_eq_group (left : List (Option Pt)) (right : List (Option Elem)) :
    join .left left right = (List.range left.length).flatMap (group Prod.fst (fun i => (some i, none)) (pairs left right)) := rfl

theorem join_right_eq_group (left : List (Option Pt)) (right : List (Option Elem)) :
    join .right left right = (List.range right.length).flatMap (group Prod.snd (fun j => (none, some j)) (pairs left right)) := rfl

def matchesOf (right : List (Option Elem)) (p : Option Pt) : List Nat :=
  (List.range right.length).filter (fun j => hit p (right.getD j none))

/-- one right row's pairs, cut down to one left position -/
theorem filter_fst_row (p : Nat → Bool) (n i j : Nat) (hi : i < n) :
    (((List.range n).filter p).map (fun x => (x, j))).filter (fun q => q.1 == i) = if p i = true then [(i, j)] else [] := by
  rw [List.filter_map, List.filter_comm]
  show (((List.range n).filter (· == i)).filter p).map _ = _
  rw [List.filter_beq, List.count_range, if_pos hi]
  cases hp : p i <;> simp [hp]

theorem pairs_filter_fst (left : List (Option Pt)) (right : List (Option Elem)) (i : Nat) (hi : i < left.length) :
    (pairs left right).filter (fun p => p.1 == i) = (matchesOf right (left.getD i none)).map (fun j => (i, j)) := by
  rw [pairs, List.filter_flatMap, matchesOf, ← flatMap_ite_singleton]
  exact List.flatMap_congr fun j _ => filter_fst_row _ _ i j hi

/-- the result rows of one left row, the point `x.1` at position `x.2`: they depend on nothing else of the left frame, so the join
of a frame cut into partitions is read off partition by partition (C06) -/
def rowsOf (how : How) (right : List (Option Elem)) (x : Option Pt × Nat) : List (Option Nat × Option Nat) :=
  let m := matchesOf right x.1
  if how = .left ∧ m.isEmpty then [(some x.2, none)] else m.map (fun j => (some x.2, some j))

theorem join_left_rows (left : List (Option Pt)) (right : List (Option Elem)) :
    join .left left right = left.zipIdx.flatMap (rowsOf .left right) := by
  rw [join, zipIdx_eq_map left none, List.flatMap_map]
  refine List.flatMap_congr fun i hi => ?_
  simp only [pairs_filter_fst left right i (List.mem_range.mp hi), rowsOf, List.isEmpty_map, List.map_map, true_and]
  rfl

theorem flatMap_comm_perm {α β γ : Type} (l₁ : List α) (l₂ : List β) (f : α → β → List γ) :
    (l₁.flatMap fun a => l₂.flatMap (f a)).Perm (l₂.flatMap fun b => l₁.flatMap (f · b)) := by
  induction l₁ with
  | nil => simp
  | cons a l ih => exact (ih.append_left _).trans (List.flatMap_append_perm ..)

theorem join_inner_rows (left : List (Option Pt)) (right : List (Option Elem)) :
    (join .inner left right).Perm (left.zipIdx.flatMap (rowsOf .inner right)) := by
  rw [zipIdx_eq_map left none, List.flatMap_map]
  simp only [join, pairs, rowsOf, matchesOf, List.map_flatMap, List.map_map, reduceCtorEq, false_and, if_false]
  simp only [← flatMap_ite_singleton]
  exact flatMap_comm_perm ..

end SpVerif.Join
