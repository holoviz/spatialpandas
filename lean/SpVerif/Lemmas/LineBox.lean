import SpVerif.Lemmas.SegSeg
import SpVerif.Lemmas.BoxFacts
/-! C01, line-like kinds: `_perform_line_intersect_bounds` is exact for boxes of positive width and height (`lineIBcore_iff`).
Three parts, shared with the polygon kernel: the vertex test and the four edge tests together are exact (`vertex_or_edge_iff`: a
segment that enters the box crosses its boundary), the projection shortcut is sound (`proj_hit`), the reject loses nothing
(`outside_disjoint`).  The vocabulary of the geometry chain is defined here: `QPt`, `InBoxQ`, `OnSeg`, `LinePoint`, `orientQ`. -/
namespace SpVerif.Geom

abbrev QPt := ℚ × ℚ

def InBoxQ (b : Box) (p : ℚ × ℚ) : Prop := (b.x0 : ℚ) ≤ p.1 ∧ p.1 ≤ b.x1 ∧ (b.y0 : ℚ) ≤ p.2 ∧ p.2 ≤ b.y1

def OnSeg (u v : Pt) (p : ℚ × ℚ) : Prop :=
  ∃ t : ℚ, 0 ≤ t ∧ t ≤ 1 ∧ p.1 = u.1 + t * (v.1 - u.1) ∧ p.2 = u.2 + t * (v.2 - u.2)

/-- the closed point set of a line: its vertices and its segments -/
def LinePoint (l : List Pt) (p : ℚ × ℚ) : Prop :=
  (∃ v ∈ l, p = ((v.1 : ℚ), (v.2 : ℚ))) ∨ ∃ s ∈ segs l, OnSeg s.1 s.2 p

theorem mem_segs {l : List Pt} {s : Pt × Pt} (h : s ∈ segs l) : s.1 ∈ l ∧ s.2 ∈ l := by
  match l with
  | [] => simp [segs] at h
  | [a] => simp [segs] at h
  | a :: b :: rest =>
    simp only [segs, List.mem_cons] at h
    rcases h with rfl | h
    · simp
    · have := mem_segs h
      simp only [List.mem_cons] at this ⊢
      exact ⟨Or.inr this.1, Or.inr this.2⟩

theorem exists_seg_change (P : Pt → Prop) (l : List Pt) (h1 : ∃ v ∈ l, P v) (h2 : ∃ v ∈ l, ¬ P v) :
    ∃ s ∈ segs l, (P s.1 ∧ ¬ P s.2) ∨ (¬ P s.1 ∧ P s.2) := by
  match l with
  | [] => simp at h1
  | [a] => simp only [List.mem_singleton, exists_eq_left] at h1 h2; exact absurd h1 h2
  | a :: b :: rest =>
    by_cases hab : P a ↔ P b
    · -- the tail still has both kinds: `b` stands in for `a`
      have tail : ∀ {Q : Pt → Prop}, (Q a → Q b) → (∃ v ∈ a :: b :: rest, Q v) → ∃ v ∈ b :: rest, Q v := by
        rintro Q hQ ⟨v, hv, qv⟩
        rcases List.mem_cons.1 hv with rfl | hv
        · exact ⟨b, List.mem_cons_self, hQ qv⟩
        · exact ⟨v, hv, qv⟩
      obtain ⟨s, hs, hc⟩ := exists_seg_change P (b :: rest) (tail hab.1 h1) (tail (mt hab.2) h2)
      exact ⟨s, List.mem_cons_of_mem _ hs, hc⟩
    · exact ⟨(a, b), List.mem_cons_self, ((xor_iff_not_iff _ _).2 hab).imp_right And.symm⟩

theorem onSeg_left (a b : Pt) : OnSeg a b ((a.1 : ℚ), (a.2 : ℚ)) := ⟨0, le_refl _, by norm_num, by simp, by simp⟩
theorem onSeg_right (a b : Pt) : OnSeg a b ((b.1 : ℚ), (b.2 : ℚ)) := ⟨1, by norm_num, le_refl _, by simp, by simp⟩

theorem onSeg_swap {u v : Pt} {q : QPt} (h : OnSeg u v q) : OnSeg v u q := by
  obtain ⟨t, t0, t1, e1, e2⟩ := h
  exact ⟨1 - t, sub_nonneg.mpr t1, sub_le_self 1 t0, by rw [e1]; ring, by rw [e2]; ring⟩

theorem inBoxQ_cast {b : Box} {v : Pt} : InBoxQ b ((v.1 : ℚ), (v.2 : ℚ)) ↔ BoxHas b v := by
  simp only [InBoxQ, BoxHas, Int.cast_le]

theorem onSeg_in_box {bb : Box} {u v : Pt} (hu : BoxHas bb u) (hv : BoxHas bb v) {p : QPt} (hp : OnSeg u v p) : InBoxQ bb p := by
  obtain ⟨t, t0, t1, e1, e2⟩ := hp
  obtain ⟨a1, a2, a3, a4⟩ := inBoxQ_cast.mpr hu
  obtain ⟨b1, b2, b3, b4⟩ := inBoxQ_cast.mpr hv
  have hx := lerp_mem ⟨a1, a2⟩ ⟨b1, b2⟩ t0 t1
  have hy := lerp_mem ⟨a3, a4⟩ ⟨b3, b4⟩ t0 t1
  exact ⟨e1 ▸ hx.1, e1 ▸ hx.2, e2 ▸ hy.1, e2 ▸ hy.2⟩

theorem segMeet_iff {a0 a1 b0 b1 : Pt} : SegMeet a0 a1 b0 b1 ↔ ∃ q, OnSeg a0 a1 q ∧ OnSeg b0 b1 q := by
  constructor
  · rintro ⟨s, t, s0, s1, t0, t1, ex, ey⟩
    exact ⟨(_, _), ⟨s, s0, s1, rfl, rfl⟩, ⟨t, t0, t1, ex, ey⟩⟩
  · rintro ⟨q, ⟨s, s0, s1, e1, e2⟩, ⟨t, t0, t1, f1, f2⟩⟩
    exact ⟨s, t, s0, s1, t0, t1, e1 ▸ f1, e2 ▸ f2⟩

def orientQ (a b : Pt) (p : QPt) : ℚ := ((b.1 : ℚ) - a.1) * (p.2 - a.2) - ((b.2 : ℚ) - a.2) * (p.1 - a.1)

theorem onSeg_iff {a b : Pt} {q : QPt} :
    OnSeg a b q ↔ orientQ a b q = 0 ∧ (min (a.1 : ℚ) b.1 ≤ q.1 ∧ q.1 ≤ max (a.1 : ℚ) b.1) ∧
      (min (a.2 : ℚ) b.2 ≤ q.2 ∧ q.2 ≤ max (a.2 : ℚ) b.2) := by
  constructor
  · rintro ⟨t, t0, t1, ex, ey⟩
    rw [orientQ, ex, ey]
    exact ⟨by ring, lerp_between t0 t1, lerp_between t0 t1⟩
  · rintro ⟨hc, ⟨x1, x2⟩, y1, y2⟩
    unfold orientQ at hc
    by_cases hx : (a.1 : ℚ) = b.1
    · by_cases hy : (a.2 : ℚ) = b.2
      · simp only [← hx, ← hy, min_self, max_self] at x1 x2 y1 y2
        exact ⟨0, le_rfl, zero_le_one, by linarith, by linarith⟩
      · -- vertical: parametrise by y
        obtain ⟨t0, t1, e⟩ := unit_div hy y1 y2
        simp only [← hx, min_self, max_self] at x1 x2
        exact ⟨_, t0, t1, by rw [← hx, sub_self, mul_zero, add_zero]; linarith, by rw [e]; ring⟩
    · -- parametrise by x; the other coordinate is given by collinearity
      obtain ⟨t0, t1, e⟩ := unit_div hx x1 x2
      have hD := sub_ne_zero.2 (Ne.symm hx)
      refine ⟨_, t0, t1, by rw [e]; ring, ?_⟩
      field_simp
      linarith

theorem onSeg_comb {a b : Pt} {q1 q2 : QPt} (o1 : OnSeg a b q1) (o2 : OnSeg a b q2) {lam : ℚ} (l0 : 0 ≤ lam) (l1 : lam ≤ 1) :
    OnSeg a b (q1.1 + lam * (q2.1 - q1.1), q1.2 + lam * (q2.2 - q1.2)) := by
  obtain ⟨t1, t10, t11, e1x, e1y⟩ := o1
  obtain ⟨t2, t20, t21, e2x, e2y⟩ := o2
  have ht := lerp_mem ⟨t10, t11⟩ ⟨t20, t21⟩ l0 l1
  exact ⟨t1 + lam * (t2 - t1), ht.1, ht.2, by rw [e1x, e2x]; ring, by rw [e1y, e2y]; ring⟩

theorem cross_level {a b c : ℚ} (ha : a < c) (hb : c ≤ b) : ∃ t, 0 ≤ t ∧ t ≤ 1 ∧ a + t * (b - a) = c := by
  obtain ⟨t0, t1, e⟩ := unit_div (ha.trans_le hb).ne ((min_le_left a b).trans ha.le) (hb.trans (le_max_right a b))
  exact ⟨_, t0, t1, by rw [e, add_sub_cancel]⟩

theorem enter_range {a b lo hi : ℚ} (hb : lo ≤ b ∧ b ≤ hi) :
    ∃ t, 0 ≤ t ∧ t ≤ 1 ∧ (lo ≤ a + t * (b - a) ∧ a + t * (b - a) ≤ hi) ∧
      (t = 0 ∨ a + t * (b - a) = lo ∨ a + t * (b - a) = hi) := by
  rcases lt_or_ge a lo with h | h
  · obtain ⟨t, t0, t1, e⟩ := cross_level h hb.1
    exact ⟨t, t0, t1, ⟨e.ge, e ▸ hb.1.trans hb.2⟩, Or.inr (Or.inl e)⟩
  · rcases lt_or_ge hi a with h' | h'
    · obtain ⟨t, t0, t1, e⟩ := cross_level (neg_lt_neg h') (neg_le_neg hb.2)
      have e' : a + t * (b - a) = hi := by linarith
      exact ⟨t, t0, t1, ⟨e' ▸ hb.1.trans hb.2, e'.le⟩, Or.inr (Or.inr e')⟩
    · exact ⟨0, le_rfl, zero_le_one, by simpa using ⟨h, h'⟩, Or.inl rfl⟩

/-- the four edges of a box, as the kernels pass them to `segments_intersect` (top, bottom, left, right) -/
def boxEdges (b : Box) : List (Pt × Pt) :=
  [((b.x0, b.y1), (b.x1, b.y1)), ((b.x0, b.y0), (b.x1, b.y0)), ((b.x0, b.y0), (b.x0, b.y1)), ((b.x1, b.y0), (b.x1, b.y1))]

theorem on_boxEdge {b : Box} (hx : b.x0 ≤ b.x1) (hy : b.y0 ≤ b.y1) {q : QPt} (hq : InBoxQ b q)
    (hb : q.1 = b.x0 ∨ q.1 = b.x1 ∨ q.2 = b.y0 ∨ q.2 = b.y1) : ∃ e ∈ boxEdges b, OnSeg e.1 e.2 q := by
  obtain ⟨q1, q2, q3, q4⟩ := hq
  have vert : ∀ x : Int, q.1 = x → OnSeg (x, b.y0) (x, b.y1) q := fun x h =>
    onSeg_iff.mpr (by simp [orientQ, h, Int.cast_le.mpr hy, q3, q4])
  have horiz : ∀ y : Int, q.2 = y → OnSeg (b.x0, y) (b.x1, y) q := fun y h =>
    onSeg_iff.mpr (by simp [orientQ, h, Int.cast_le.mpr hx, q1, q2])
  rcases hb with h | h | h | h
  · exact ⟨((b.x0, b.y0), (b.x0, b.y1)), by simp [boxEdges], vert _ h⟩
  · exact ⟨((b.x1, b.y0), (b.x1, b.y1)), by simp [boxEdges], vert _ h⟩
  · exact ⟨((b.x0, b.y0), (b.x1, b.y0)), by simp [boxEdges], horiz _ h⟩
  · exact ⟨((b.x0, b.y1), (b.x1, b.y1)), by simp [boxEdges], horiz _ h⟩

theorem seg_meets_edge {b : Box} (hx : b.x0 ≤ b.x1) (hy : b.y0 ≤ b.y1) {u v : Pt} (hu : ¬ BoxHas b u)
    {q : QPt} (on : OnSeg u v q) (hq : InBoxQ b q) : ∃ e ∈ boxEdges b, SegMeet u v e.1 e.2 := by
  obtain ⟨p1, p2, p3, p4⟩ := hq
  -- move from `u` towards `q` until the abscissa is in range, then on towards `q` until the ordinate is: the point reached is in
  -- the box, and the coordinate moved last is at an end of its range, since `u` itself is not in the box
  obtain ⟨t, t0, t1, hx', tx⟩ := enter_range (a := (u.1 : ℚ)) ⟨p1, p2⟩
  obtain ⟨s, s0, s1, hy', ty⟩ := enter_range (a := (u.2 : ℚ) + t * (q.2 - u.2)) ⟨p3, p4⟩
  have hx'' := lerp_mem hx' ⟨p1, p2⟩ s0 s1
  have hon := onSeg_comb (onSeg_comb (onSeg_left u v) on t0 t1) on s0 s1
  obtain ⟨e, he, hoe⟩ := on_boxEdge hx hy (q := (_, _)) ⟨hx''.1, hx''.2, hy'.1, hy'.2⟩ (by
    rcases ty with rfl | h | h
    · rcases tx with rfl | h | h
      · exact absurd (inBoxQ_cast.mp ⟨by simpa using hx'.1, by simpa using hx'.2, by simpa using hy'.1, by simpa using hy'.2⟩) hu
      · exact Or.inl (by simpa using h)
      · exact Or.inr (Or.inl (by simpa using h))
    · exact Or.inr (Or.inr (Or.inl h))
    · exact Or.inr (Or.inr (Or.inr h)))
  exact ⟨e, he, segMeet_iff.mpr ⟨_, hon, hoe⟩⟩

theorem segBoxEdges_eq (b : Box) (s : Pt × Pt) : segBoxEdges b s = (boxEdges b).any (fun e => segmentsIntersect s.1 s.2 e.1 e.2) := by
  simp [segBoxEdges, boxEdges, List.any_cons, Bool.or_assoc]

theorem boxEdge_has {b : Box} (hx : b.x0 ≤ b.x1) (hy : b.y0 ≤ b.y1) {e : Pt × Pt} (he : e ∈ boxEdges b) : BoxHas b e.1 ∧ BoxHas b e.2 := by
  simp only [boxEdges, List.mem_cons, List.mem_nil_iff, or_false] at he
  rcases he with rfl | rfl | rfl | rfl <;> simp only [BoxHas] <;> omega

theorem boxEdge_ne {b : Box} (hx : b.x0 < b.x1) (hy : b.y0 < b.y1) {e : Pt × Pt} (he : e ∈ boxEdges b) : e.1 ≠ e.2 := by
  simp only [boxEdges, List.mem_cons, List.mem_nil_iff, or_false] at he
  rcases he with rfl | rfl | rfl | rfl <;> simp only [ne_eq, Prod.mk.injEq, not_and] <;> omega

/-- no hypothesis on the first segment: a zero-length one is reported only at an end of the second -/
theorem segmentsIntersect_sound {a0 a1 b0 b1 : Pt} (hb : b0 ≠ b1) (h : segmentsIntersect a0 a1 b0 b1 = true) :
    SegMeet a0 a1 b0 b1 := by
  by_cases ha : a0 = a1
  · subst ha
    -- what is left of the kernel for a zero-length first segment: the two range tests, then `a0 == b0 || a0 == b1`
    obtain ⟨-, -, rfl | rfl⟩ : seg1d a0.1 a0.1 b0.1 b1.1 = true ∧ seg1d a0.2 a0.2 b0.2 b1.2 = true ∧ (a0 = b0 ∨ a0 = b1) := by
      simpa [segmentsIntersect, hb] using h
    · exact segMeet_iff.mpr ⟨_, onSeg_left _ _, onSeg_left _ _⟩
    · exact segMeet_iff.mpr ⟨_, onSeg_left _ _, onSeg_right _ _⟩
  · exact (segmentsIntersect_iff a0 a1 b0 b1 ha hb).mp h

theorem onSeg_self {a : Pt} {q : QPt} (h : OnSeg a a q) : q = ((a.1 : ℚ), (a.2 : ℚ)) := by
  obtain ⟨t, _, _, e1, e2⟩ := h
  exact Prod.ext (by simpa using e1) (by simpa using e2)

theorem segBoxEdges_iff {b : Box} (hx : b.x0 < b.x1) (hy : b.y0 < b.y1) {s : Pt × Pt} (hout : ¬ BoxHas b s.1) :
    segBoxEdges b s = true ↔ ∃ q, OnSeg s.1 s.2 q ∧ InBoxQ b q := by
  rw [segBoxEdges_eq, List.any_eq_true]
  constructor
  · rintro ⟨e, he, hint⟩
    obtain ⟨q, on, one⟩ := segMeet_iff.mp (segmentsIntersect_sound (boxEdge_ne hx hy he) hint)
    obtain ⟨h1, h2⟩ := boxEdge_has hx.le hy.le he
    exact ⟨q, on, onSeg_in_box h1 h2 one⟩
  · rintro ⟨q, on, hin⟩
    obtain ⟨e, he, hmeet⟩ := seg_meets_edge hx.le hy.le hout on hin
    have hdeg : s.1 ≠ s.2 := fun hc => hout (inBoxQ_cast.mp (onSeg_self (hc ▸ on : OnSeg s.1 s.1 q) ▸ hin))
    exact ⟨e, he, (segmentsIntersect_iff s.1 s.2 e.1 e.2 hdeg (boxEdge_ne hx hy he)).mpr hmeet⟩

theorem vertex_or_edge_iff {b : Box} (hx : b.x0 < b.x1) (hy : b.y0 < b.y1) (l : List Pt) :
    ((∃ v ∈ l, BoxHas b v) ∨ ∃ s ∈ segs l, segBoxEdges b s = true) ↔ ∃ p, LinePoint l p ∧ InBoxQ b p := by
  constructor
  · rintro (⟨v, hv, hb⟩ | ⟨s, hs, he⟩)
    · exact ⟨_, Or.inl ⟨v, hv, rfl⟩, inBoxQ_cast.mpr hb⟩
    · by_cases hout : BoxHas b s.1
      · exact ⟨_, Or.inl ⟨s.1, (mem_segs hs).1, rfl⟩, inBoxQ_cast.mpr hout⟩
      · obtain ⟨q, on, hin⟩ := (segBoxEdges_iff hx hy hout).mp he
        exact ⟨q, Or.inr ⟨s, hs, on⟩, hin⟩
  · rintro ⟨p, ⟨v, hv, rfl⟩ | ⟨s, hs, on⟩, hin⟩
    · exact Or.inl ⟨v, hv, inBoxQ_cast.mp hin⟩
    · by_cases hout : BoxHas b s.1
      · exact Or.inl ⟨s.1, (mem_segs hs).1, hout⟩
      · exact Or.inr ⟨s, hs, (segBoxEdges_iff hx hy hout).mpr ⟨p, on, hin⟩⟩

theorem linePoint_in_bbox {l : List Pt} {bb : Box} (hbb : bboxOf l = some bb) {p : QPt} (hp : LinePoint l p) : InBoxQ bb p := by
  rcases hp with ⟨v, hv, rfl⟩ | ⟨s, hs, hon⟩
  · exact inBoxQ_cast.mpr (bboxOf_has hbb v hv)
  · exact onSeg_in_box (bboxOf_has hbb _ (mem_segs hs).1) (bboxOf_has hbb _ (mem_segs hs).2) hon

theorem linePoint_bbox {l : List Pt} {p : QPt} (hp : LinePoint l p) : ∃ bb, bboxOf l = some bb ∧ InBoxQ bb p := by
  obtain ⟨v, hv⟩ : ∃ v, v ∈ l := hp.elim (fun ⟨v, hv, _⟩ => ⟨v, hv⟩) (fun ⟨s, hs, _⟩ => ⟨s.1, (mem_segs hs).1⟩)
  obtain ⟨bb, hbb⟩ := bboxOf_some_of_mem hv
  exact ⟨bb, hbb, linePoint_in_bbox hbb hp⟩

theorem inBoxQ_sub {bb BB : Box} (hs : BoxSub bb BB) {q : QPt} (h : InBoxQ bb q) : InBoxQ BB q := by
  obtain ⟨s1, s2, s3, s4⟩ := hs
  obtain ⟨h1, h2, h3, h4⟩ := h
  exact ⟨le_trans (Int.cast_le.mpr s1) h1, le_trans h2 (Int.cast_le.mpr s2), le_trans (Int.cast_le.mpr s3) h3,
    le_trans h4 (Int.cast_le.mpr s4)⟩

theorem outside_disjoint {bb b : Box} {q : QPt} (h1 : InBoxQ bb q) (h2 : InBoxQ b q) : bboxOutside bb b = false := by
  obtain ⟨a1, a2, a3, a4⟩ := h1
  obtain ⟨c1, c2, c3, c4⟩ := h2
  exact bboxOutside_eq_false.mpr ⟨Int.cast_le.mp (a1.trans c2), Int.cast_le.mp (a3.trans c4),
    Int.cast_le.mp (c1.trans a2), Int.cast_le.mp (c3.trans a4)⟩

theorem exists_crossing (l : List Pt) (f : Pt → Int) (c : Int) (hlo : ∃ v ∈ l, f v < c) (hhi : ∃ v ∈ l, c ≤ f v) :
    ∃ u w, f u < c ∧ c ≤ f w ∧ ∀ p, OnSeg u w p → LinePoint l p := by
  obtain ⟨s, hs, ⟨h1, h2⟩ | ⟨h1, h2⟩⟩ :=
    exists_seg_change (fun v => f v < c) l hlo (hhi.imp fun _ h => ⟨h.1, not_lt.mpr h.2⟩)
  · exact ⟨s.1, s.2, h1, not_lt.mp h2, fun p on => Or.inr ⟨s, hs, on⟩⟩
  · exact ⟨s.2, s.1, h2, not_lt.mp h1, fun p on => Or.inr ⟨s, hs, onSeg_swap on⟩⟩

/-- a line is connected; `f` is the ordinate or the abscissa, and `u = w` when the value is taken at a vertex -/
theorem level_hit (l : List Pt) (f : Pt → Int) {c d : Int} (hcd : c ≤ d) (h1 : ∃ v ∈ l, f v ≤ d) (h2 : ∃ v ∈ l, c ≤ f v) :
    ∃ u w : Pt, (∀ p, OnSeg u w p → LinePoint l p) ∧ ∃ t : ℚ, 0 ≤ t ∧ t ≤ 1 ∧
      (c : ℚ) ≤ f u + t * (f w - f u) ∧ (f u : ℚ) + t * (f w - f u) ≤ d := by
  obtain ⟨v, hv, hvd⟩ := h1
  by_cases hlow : f v < c
  · -- `v` is below `c`: some segment reaches `c` from below
    obtain ⟨u, w, hu, hw, hon⟩ := exists_crossing l f c ⟨v, hv, hlow⟩ h2
    obtain ⟨t, t0, t1, e⟩ := cross_level (Int.cast_lt (R := ℚ).mpr hu) (Int.cast_le.mpr hw)
    exact ⟨u, w, hon, t, t0, t1, e.ge, e ▸ Int.cast_le.mpr hcd⟩
  · exact ⟨v, v, fun p on => Or.inl ⟨v, hv, onSeg_self on⟩, 0, le_rfl, zero_le_one, by simpa using ⟨not_lt.mp hlow, hvd⟩⟩

/-- the projection shortcut is sound: on the other axis the line takes a value in the box's range, at a point that lies in the
bounding box -/
theorem proj_hit {b bb : Box} (hx : b.x0 ≤ b.x1) (hy : b.y0 ≤ b.y1) {l : List Pt} (hbb : bboxOf l = some bb)
    (hout : bboxOutside bb b = false) (hproj : bboxProjInside bb b = true) : ∃ p, LinePoint l p ∧ InBoxQ b p := by
  obtain ⟨⟨vx0, mx0, ex0⟩, ⟨vy0, my0, ey0⟩, ⟨vx1, mx1, ex1⟩, ⟨vy1, my1, ey1⟩⟩ := bboxOf_attains hbb
  obtain ⟨ox, oy, ox', oy'⟩ := bboxOutside_eq_false.mp hout
  rcases bboxProjInside_iff.mp hproj with hp | hp
  · obtain ⟨u, w, hon, t, t0, t1, a1, a2⟩ := level_hit l (·.2) hy ⟨vy0, my0, ey0 ▸ oy⟩ ⟨vy1, my1, ey1 ▸ oy'⟩
    have hlp := hon (_, _) ⟨t, t0, t1, rfl, rfl⟩
    obtain ⟨h1, h2, -, -⟩ := linePoint_in_bbox hbb hlp
    exact ⟨_, hlp, (Int.cast_le.mpr hp.1).trans h1, h2.trans (Int.cast_le.mpr hp.2), a1, a2⟩
  · obtain ⟨u, w, hon, t, t0, t1, a1, a2⟩ := level_hit l (·.1) hx ⟨vx0, mx0, ex0 ▸ ox⟩ ⟨vx1, mx1, ex1 ▸ ox'⟩
    have hlp := hon (_, _) ⟨t, t0, t1, rfl, rfl⟩
    obtain ⟨-, -, h3, h4⟩ := linePoint_in_bbox hbb hlp
    exact ⟨_, hlp, a1, a2, (Int.cast_le.mpr hp.1).trans h3, h4.trans (Int.cast_le.mpr hp.2)⟩

/-- **`_perform_line_intersect_bounds` is exact**: for a box of positive width and height the kernel answers True exactly
when the closed point set of the line (vertices and segments) shares a point with the closed box -/
theorem lineIBcore_iff {b : Box} (hx : b.x0 < b.x1) (hy : b.y0 < b.y1) (l : List Pt) :
    lineIBcore b l = true ↔ ∃ p, LinePoint l p ∧ InBoxQ b p := by
  cases hbb : bboxOf l with
  | none => simp [lineIBcore, bboxOf, (bboxOf_none_iff l).mp hbb, LinePoint, segs]
  | some bb =>
    rw [lineIBcore_eq hbb, ← vertex_or_edge_iff hx hy]
    simp only [Bool.and_eq_true, Bool.not_eq_true', Bool.or_eq_true, List.any_eq_true, inBox_iff]
    constructor
    · rintro ⟨hout, hproj | h⟩
      · exact (vertex_or_edge_iff hx hy l).mpr (proj_hit hx.le hy.le hbb hout hproj)
      · exact h
    · intro h
      obtain ⟨p, hp, hin⟩ := (vertex_or_edge_iff hx hy l).mp h
      exact ⟨outside_disjoint (linePoint_in_bbox hbb hp) hin, Or.inr h⟩

end SpVerif.Geom
