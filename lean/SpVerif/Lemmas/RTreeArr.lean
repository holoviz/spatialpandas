import SpVerif.Lemmas.RTree
import SpVerif.Lemmas.RTreeIndex
import SpVerif.Model.RTreeArr
/-!
# C03: the stack traversal over the array-encoded tree is the recursive query over the page tree

`Arr.Holds` says that row `2^t − 1 + j` of `bounds_tree` holds the box of the sub-tree at depth `t`, position `j` — what the
bottom-up pass of `_build_hilbert_rtree` stores (`Lemmas/RTreeFill.lean`).  `loop_pop` is one pop of `loop` with the index arithmetic
done, `loop_stack` the invariant of the traversal, by induction on the number of pops left.
-/
namespace SpVerif.RTreeArr
open RTree RTreeIndex

def Arr.Holds (d : Nat) (a : Arr) : Prop := ∀ t j, t ≤ a.D → j < 2 ^ t → a.bt (2 ^ t - 1 + j) = (sub a t j).box d

theorem build_take (ps k : Nat) (rs : List Row) (m : Nat) (h : 2 ^ k * ps ≤ m) : build ps k (rs.take m) = build ps k rs := by
  induction k generalizing rs m with
  | zero => rw [build, build, List.take_take, Nat.min_eq_left (by simpa using h)]
  | succ k ih =>
    have h2 := two_pow_succ_mul k ps
    rw [build, build, List.take_take, Nat.min_eq_left (by omega), List.drop_take, ih (rs.drop (2 ^ k * ps)) _ (by omega : 2 ^ k * ps ≤ m - 2 ^ k * ps)]

theorem sub_node (a : Arr) (t j : Nat) (ht : t < a.D) :
    sub a t j = PTree.node (sub a (t + 1) (2 * j)) (sub a (t + 1) (2 * j + 1)) := by
  unfold sub
  obtain ⟨k, hk⟩ : ∃ k, a.D - t = k + 1 := ⟨a.D - t - 1, by omega⟩
  have hk' : a.D - (t + 1) = k := by rw [Nat.sub_succ, hk, Nat.pred_succ]
  rw [hk, hk']
  simp only [build]
  have e1 : j * 2 ^ (k + 1) * a.ps = 2 * j * 2 ^ k * a.ps := by
    rw [Nat.pow_succ, Nat.mul_comm (2 ^ k) 2, ← Nat.mul_assoc, Nat.mul_comm j 2]
  congr 1
  · rw [build_take _ _ _ _ (Nat.le_refl _), e1]
  · rw [List.drop_drop]
    congr 2
    rw [e1, Nat.add_mul, Nat.add_mul, Nat.one_mul]

theorem sub_leaf (a : Arr) (j : Nat) : sub a a.D j = PTree.leaf ((a.rows.drop (j * a.ps)).take a.ps) := by
  unfold sub
  simp [build]

theorem sub_rows (a : Arr) (t j : Nat) :
    (sub a t j).rows = a.slice (j * 2 ^ (a.D - t) * a.ps) ((j + 1) * 2 ^ (a.D - t) * a.ps) := by
  unfold sub Arr.slice
  rw [build_rows]
  congr 1
  rw [Nat.add_mul, Nat.add_mul, Nat.one_mul]; omega

theorem append_pair (x y z : List Row × List Row) :
    ((x.1 ++ y.1) ++ z.1, (x.2 ++ y.2) ++ z.2) = (x.1 ++ (y.1 ++ z.1), x.2 ++ (y.2 ++ z.2)) := by
  simp [List.append_assoc]

theorem loop_pop (d : Nat) (q : NBox) (a : Arr) (hps : 1 ≤ a.ps) (hold : a.Holds d) (t j : Nat) (ht : t ≤ a.D) (hj : j < 2 ^ t)
    (rest : List Nat) (acc : List Row × List Row) (f : Nat) :
    loop d q a (f + 1) ((2 ^ t - 1 + j) :: rest) acc =
      match (sub a t j).box d with
      | none => loop d q a f rest (acc.1 ++ (sub a t j).rows, acc.2)
      | some b =>
        if outside d q b then loop d q a f rest acc
        else if inside d q b then loop d q a f rest (acc.1 ++ (sub a t j).rows, acc.2)
        else if t = a.D then loop d q a f rest (acc.1, acc.2 ++ (sub a t j).rows)
        else loop d q a f ((2 ^ (t + 1) - 1 + 2 * j) :: (2 ^ (t + 1) - 1 + (2 * j + 1)) :: rest) acc := by
  obtain ⟨hlc, hrc, hs, he, hleaf⟩ := index_arithmetic a.D a.ps t j hps ht hj
  rw [hs, he] at hleaf
  simp only [loop, Arr.len, hs, he, hold t j ht hj, sub_rows, hleaf, hlc, hrc]
  rfl

/-- the traversal invariant: the stack holds, in order, the nodes whose sub-trees are still to be queried.  Every pop takes a node
off for good or replaces it by its two children, so the number of nodes below the stack falls with every pop and bounds the pops needed -/
theorem loop_stack (d : Nat) (q : NBox) (a : Arr) (hps : 1 ≤ a.ps) (hold : a.Holds d) (fuel : Nat) :
    ∀ (st : List (Nat × Nat)) (acc : List Row × List Row), (∀ p ∈ st, p.1 ≤ a.D ∧ p.2 < 2 ^ p.1) →
      (st.map fun p => 2 * 2 ^ (a.D - p.1) - 1).sum ≤ fuel →
      loop d q a fuel (st.map fun p => 2 ^ p.1 - 1 + p.2) acc =
        st.foldl (fun acc p => (acc.1 ++ (query d q (sub a p.1 p.2)).1, acc.2 ++ (query d q (sub a p.1 p.2)).2)) acc := by
  induction fuel with
  | zero =>
    rintro (_ | ⟨p, rest⟩) acc _ hsum
    · rfl
    · have := Nat.two_pow_pos (a.D - p.1)
      rw [List.map_cons, List.sum_cons] at hsum
      omega
  | succ f ih =>
    rintro (_ | ⟨⟨t, j⟩, rest⟩) acc hv hsum
    · rfl
    · obtain ⟨⟨ht, hj⟩, hrest⟩ := List.forall_mem_cons.mp hv
      have hpos := Nat.two_pow_pos (a.D - t)
      simp only [List.map_cons, List.sum_cons] at ht hj hsum
      -- a node that is absent, pruned, covered or a leaf is settled by this pop
      have one := fun acc => ih rest acc hrest (by omega)
      rw [List.map_cons, List.foldl_cons, loop_pop d q a hps hold t j ht hj, query_eq]
      cases hb : (sub a t j).box d with
      | none => simp [one, rows_nil_of_box_none hb]
      | some b =>
        by_cases ho : outside d q b = true
        · simp [ho, one]
        · by_cases hi : inside d q b = true
          · simp [ho, hi, one]
          · by_cases hl : t = a.D
            · subst hl
              simp [ho, hi, one, sub_leaf, descend, PTree.rows]
            · -- descend: the two children go on the stack; there is one node less below them than below their parent
              have hlt : t < a.D := Nat.lt_of_le_of_ne ht hl
              have h2t : 2 ^ (t + 1) = 2 * 2 ^ t := Nat.pow_succ'
              have hsz : 2 ^ (a.D - t) = 2 * 2 ^ (a.D - (t + 1)) := by
                rw [← Nat.pow_succ', ← Nat.sub_sub, Nat.succ_eq_add_one, Nat.sub_add_cancel (Nat.sub_pos_of_lt hlt)]
              simp only [ho, hi, hl, if_false, Bool.false_eq_true]
              refine (ih ((t + 1, 2 * j) :: (t + 1, 2 * j + 1) :: rest) acc ?_ ?_).trans ?_
              · simp only [List.forall_mem_cons]
                exact ⟨⟨hlt, by omega⟩, ⟨hlt, by omega⟩, hrest⟩
              · simp only [List.map_cons, List.sum_cons]
                omega
              · simp only [List.foldl_cons, sub_node a t j hlt, descend, List.append_assoc]

/-- `a.len` pops suffice: one per node -/
theorem loop_eq_query (d : Nat) (q : NBox) (a : Arr) (hps : 1 ≤ a.ps) (hold : a.Holds d) :
    loop d q a a.len [0] ([], []) = query d q (build a.ps a.D a.rows) := by
  have h := loop_stack d q a hps hold a.len [(0, 0)] ([], []) (by simp) (by simp [Arr.len])
  simpa [sub] using h

end SpVerif.RTreeArr
