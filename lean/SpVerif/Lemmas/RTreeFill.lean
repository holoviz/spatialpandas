import SpVerif.Lemmas.RTreeArr
import SpVerif.Model.RTreeFill
/-!
# C03: the coded bottom-up pass fills `bounds_tree` with the boxes of the sub-trees

`fill_holds`: after the page loop and the layer loops of `_build_hilbert_rtree` (as coded: reads of the children from the array
being filled, nothing written when both children are NaN, `start` / `stop` moved by `_parent`), row `2^t − 1 + j` of `bounds_tree`
is the box of the sub-tree at depth `t`, position `j` — the hypothesis `Arr.Holds` of `loop_eq_query`.  `Sim`: the same pass on the
array as a list (`fillL`, what the driver runs) computes the same rows.
-/
namespace SpVerif.RTreeFill
open RTree RTreeIndex RTreeArr

theorem fillNode_of_none (d : Nat) (bt : BT) (node : Nat) (h : bt node = none) :
    fillNode d bt node = setAt bt node (unionOpt d (bt (leftChild node)) (bt (rightChild node))) := by
  unfold fillNode
  cases hl : bt (leftChild node) <;> cases hr : bt (rightChild node)
  · -- both children NaN: the code writes nothing, and `setAt` writes the `none` that is there already
    funext i
    simp only [setAt, unionOpt]
    split
    · next hi => rw [hi, h]
    · rfl
  all_goals rfl

/-- a loop `for n in range(m)` that writes row `s+n` at step `n`; the step may assume what the earlier steps left, because `fillNode`
reads the array that is being filled -/
theorem foldl_range_spec (step : BT → Nat → BT) (v : Nat → Option NBox) (s : Nat) (bt0 : BT) : ∀ m,
    (∀ n, n < m → ∀ bt : BT, (∀ i, bt i = if s ≤ i ∧ i < s + n then v i else bt0 i) → step bt n = setAt bt (s + n) (v (s + n))) →
    ∀ i, (List.range m).foldl step bt0 i = if s ≤ i ∧ i < s + m then v i else bt0 i := by
  intro m
  induction m with
  | zero => intro _ i; rw [if_neg (by omega)]; rfl
  | succ n ih =>
    intro hstep i
    have ihn := ih (fun k hk => hstep k (by omega))
    rw [List.range_succ, List.foldl_append, List.foldl_cons, List.foldl_nil, hstep n (by omega) _ ihn, setAt, ihn]
    by_cases h : i = s + n
    · subst h; simp
    · simp only [h, if_false]
      congr 1
      exact propext (by omega)

theorem fillLeaves_spec (d ps : Nat) (rows : List Row) (ls : Nat) (bt0 : BT) (np i : Nat) :
    fillLeaves d ps rows ls np bt0 i =
      if ls ≤ i ∧ i < ls + np then pageBox d ((rows.drop ((i - ls) * ps)).take ps) else bt0 i :=
  foldl_range_spec _ (fun i => pageBox d ((rows.drop ((i - ls) * ps)).take ps)) ls bt0 np
    (fun n _ _ _ => by simp only [Nat.add_sub_cancel_left]) i

theorem fillLayer_spec (d : Nat) (bt : BT) (s e : Nat) (hnone : ∀ i, s ≤ i → i ≤ e → bt i = none) (i : Nat) :
    fillLayer d bt s e i = if s ≤ i ∧ i ≤ e then unionOpt d (bt (leftChild i)) (bt (rightChild i)) else bt i := by
  unfold fillLayer
  rw [foldl_range_spec _ (fun i => unionOpt d (bt (leftChild i)) (bt (rightChild i))) s bt (e + 1 - s) (fun n hn b hb => ?_) i]
  · congr 1
    exact propext (by omega)
  · -- row `s+n` is not yet written, and its children lie beyond the rows written so far
    rw [fillNode_of_none d b _ (by rw [hb, if_neg fun h => Nat.lt_irrefl _ h.2]; exact hnone _ (Nat.le_add_right _ _) (by omega)), hb, hb,
      if_neg (by unfold leftChild; omega), if_neg (by unfold rightChild; omega)]

/-- `_parent` carries the first and the last node of a layer (the lower layer `2 * m` nodes wide) to the first and the last node of the layer
above -/
theorem parent_ends (m : Nat) (hm : 1 ≤ m) : parent (2 * m - 1) = m - 1 ∧ parent (2 * (2 * m) - 2) = 2 * m - 2 := by
  unfold parent; omega

/-- the layer loops: if the rows of the layers `l … D` hold the boxes `B` and everything above is still NaN, then after the
remaining `l` layers every row holds its box.  `start`, `stop` are written as `fill` passes them: `_parent` of the first and the
last node of layer `l` -/
theorem fillUp_spec (d D : Nat) (B : Nat → Nat → Option NBox)
    (hB : ∀ t j, t < D → j < 2 ^ t → B t j = unionOpt d (B (t + 1) (2 * j)) (B (t + 1) (2 * j + 1))) :
    ∀ l (bt : BT), l ≤ D → (∀ i, i < 2 ^ l - 1 → bt i = none) →
      (∀ t j, l ≤ t → t ≤ D → j < 2 ^ t → bt (2 ^ t - 1 + j) = B t j) →
      ∀ t j, t ≤ D → j < 2 ^ t → fillUp d l (parent (2 ^ l - 1)) (parent (2 * 2 ^ l - 2)) bt (2 ^ t - 1 + j) = B t j := by
  intro l
  induction l with
  | zero => intro bt _ _ hhigh t j ht hj; exact hhigh t j (Nat.zero_le _) ht hj
  | succ k ih =>
    intro bt hl hnone hhigh
    have hpk := Nat.two_pow_pos k
    have h2k : 2 ^ (k + 1) = 2 * 2 ^ k := Nat.pow_succ'
    rw [fillUp, h2k, (parent_ends (2 ^ k) hpk).1, (parent_ends (2 ^ k) hpk).2]
    have hspec := fillLayer_spec d bt (2 ^ k - 1) (2 * 2 ^ k - 2) (fun i _ hi => hnone i (by omega))
    refine ih _ (Nat.le_of_succ_le hl) (fun i hi => ?_) (fun t' j' hkt ht' hj' => ?_)
    · rw [hspec, if_neg fun h => Nat.not_le_of_lt hi h.1]
      exact hnone i (by omega)
    · rw [hspec]
      rcases Nat.eq_or_lt_of_le hkt with rfl | hkt
      · obtain ⟨hlc, hrc⟩ := child_eq k j'
        have hj2 : 2 * j' + 1 < 2 ^ (k + 1) := by omega
        rw [if_pos (by omega), hlc, hrc, hhigh (k + 1) (2 * j') (Nat.le_refl _) hl (Nat.lt_of_succ_lt hj2),
          hhigh (k + 1) (2 * j' + 1) (Nat.le_refl _) hl hj2]
        exact (hB k j' hl hj').symm
      · have hpow : 2 ^ (k + 1) ≤ 2 ^ t' := Nat.pow_le_pow_right (by decide) hkt
        rw [if_neg (by omega)]
        exact hhigh t' j' hkt ht' hj'

theorem pageBox_beyond (d ps : Nat) (rows : List Row) (j : Nat) (hps : 1 ≤ ps) (hj : numPages rows.length ps ≤ j) :
    pageBox d ((rows.drop (j * ps)).take ps) = none := by
  have h1 := numPages_mul rows.length ps hps
  have h2 : numPages rows.length ps * ps ≤ j * ps := Nat.mul_le_mul_right _ hj
  have : rows.drop (j * ps) = [] := List.drop_eq_nil_of_le (by omega)
  rw [this]
  simp [pageBox, PTree.box]

/-- no hypothesis ties the depth `a.D` to the number of pages: pages beyond `2^a.D` are written beyond the rows the statement speaks of -/
theorem holds_of_fill (d : Nat) (a : Arr) (hps : 1 ≤ a.ps)
    (hbt : a.bt = fillUp d a.D (parent (2 ^ a.D - 1)) (parent (2 * 2 ^ a.D - 2))
      (fillLeaves d a.ps a.rows (2 ^ a.D - 1) (numPages a.rows.length a.ps) (fun _ => none))) : a.Holds d := by
  intro t j ht hj
  rw [hbt]
  refine fillUp_spec d a.D (fun t j => (sub a t j).box d) (fun t j ht hj => ?_) a.D _ (Nat.le_refl _) (fun i hi => ?_)
    (fun t' j' hDt ht' hj' => ?_) t j ht hj
  · show (sub a t j).box d = _
    rw [sub_node a t j ht]
    rfl
  · rw [fillLeaves_spec, if_neg fun h => Nat.not_le_of_lt hi h.1]
  · obtain rfl : t' = a.D := Nat.le_antisymm ht' hDt
    rw [fillLeaves_spec, Nat.add_sub_cancel_left]
    show _ = (sub a a.D j').box d
    rw [sub_leaf]
    by_cases hc : j' < numPages a.rows.length a.ps
    · rw [if_pos ⟨Nat.le_add_right _ _, Nat.add_lt_add_left hc _⟩]
      rfl
    · rw [if_neg fun h => hc (Nat.lt_of_add_lt_add_left h.2)]
      exact (pageBox_beyond d a.ps a.rows j' hps (Nat.le_of_not_lt hc)).symm

theorem fill_holds (d ps : Nat) (rows : List Row) (hps : 1 ≤ ps) :
    ({ D := clog2 (numPages rows.length ps), ps := ps, bt := fill d ps rows, rows := rows } : Arr).Holds d := by
  refine holds_of_fill d _ hps ?_
  -- in `fill`, `tree_length = 2·2^D − 1`, `leaf_start = tree_length − 2^D` and `stop = tree_length − 1`
  rw [fill, show ∀ m, 2 * m - 1 - m = m - 1 from fun m => by omega, Nat.sub_sub]

/-- the array `l` of `len` rows read as a function is `bt`: rows beyond the end read as NaN, as in `fillNodeL` -/
def Sim (len : Nat) (l : List (Option NBox)) (bt : BT) : Prop := l.length = len ∧ (fun i => l.getD i none) = bt

theorem Sim.set {len : Nat} {l : List (Option NBox)} {bt : BT} (h : Sim len l bt) {k : Nat} (hk : k < len) (v : Option NBox) :
    Sim len (l.set k v) (setAt bt k v) := by
  obtain ⟨rfl, rfl⟩ := h
  refine ⟨List.length_set, funext fun i => ?_⟩
  by_cases hik : i = k
  · subst hik; simp [setAt, hk]
  · simp [setAt, hik, List.getD_eq_getElem?_getD, List.getElem?_set_ne (Ne.symm hik)]

theorem Sim.node {len : Nat} {l : List (Option NBox)} {bt : BT} (d : Nat) (h : Sim len l bt) {node : Nat} (hn : node < len) :
    Sim len (fillNodeL d l node) (fillNode d bt node) := by
  have e : ∀ i, l.getD i none = bt i := fun i => congrFun h.2 i
  unfold fillNodeL fillNode
  rw [e, e]
  split <;> first | exact h | exact h.set hn _

theorem Sim.layer {len : Nat} {l : List (Option NBox)} {bt : BT} (d : Nat) (h : Sim len l bt) {s e : Nat} (he : e < len) :
    Sim len (fillLayerL d l s e) (fillLayer d bt s e) := by
  unfold fillLayerL fillLayer
  exact List.foldl_rel h fun i hi _ _ h => h.node d (by have := List.mem_range.mp hi; omega)

theorem parent_le (k : Nat) : parent k ≤ k := Nat.le_trans (Nat.div_le_self _ 2) (Nat.sub_le k 1)

/-- `_parent` never moves `stop` to the right, so every layer stays inside the array -/
theorem Sim.up {len : Nat} {l : List (Option NBox)} {bt : BT} (d : Nat) (h : Sim len l bt) (n : Nat) {s e : Nat} (he : e < len) :
    Sim len (fillUpL d n s e l) (fillUp d n s e bt) := by
  induction n generalizing s e l bt with
  | zero => exact h
  | succ n ih => exact ih (h.layer d he) (Nat.lt_of_le_of_lt (parent_le e) he)

theorem sim_fill (d ps : Nat) (rows : List Row) :
    Sim (2 * 2 ^ clog2 (numPages rows.length ps) - 1) (fillL d ps rows) (fill d ps rows) := by
  have hnp := le_two_pow_clog2 (numPages rows.length ps)
  unfold fillL fill
  simp only
  generalize clog2 (numPages rows.length ps) = D at hnp ⊢
  have hpD := Nat.two_pow_pos D
  refine Sim.up d ?_ D (Nat.lt_of_le_of_lt (parent_le _) (by omega))
  unfold fillLeavesL fillLeaves
  refine List.foldl_rel ⟨by simp, ?_⟩ fun i hi _ _ h => h.set (by have := List.mem_range.mp hi; omega) _
  funext i; rw [Lists.getD_replicate, ite_self]

theorem fillL_holds (d ps : Nat) (rows : List Row) (hps : 1 ≤ ps) :
    ({ D := clog2 (numPages rows.length ps), ps := ps, bt := fun i => (fillL d ps rows).getD i none, rows := rows } : Arr).Holds d := by
  rw [(sim_fill d ps rows).2]
  exact fill_holds d ps rows hps

theorem fillL_length (d ps : Nat) (rows : List Row) : (fillL d ps rows).length = 2 * 2 ^ clog2 (numPages rows.length ps) - 1 :=
  (sim_fill d ps rows).1

end SpVerif.RTreeFill
