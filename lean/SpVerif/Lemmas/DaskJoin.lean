import SpVerif.Model.DaskJoin
import SpVerif.Lemmas.Join
/-!
# C06: `sjoin` of a Dask frame = `sjoin` of the concatenated pandas frame

`joinK_eq`: restricting the right frame to a candidate set that contains every matching row changes nothing (that the candidate sets
of the code do is `keepOverlap_sound` in `Lemmas/HitBox.lean`).  `daskJoin_left` / `daskJoin_inner`: the partitions' results,
concatenated, are `Join.rowsOf` over the rows of the concatenated frame at their positions there, which is its join: for `how='left'`
in the same order, for `how='inner'` up to order, since pandas orders the inner result by right row and Dask by partition.
-/
namespace SpVerif.DaskJoin
open SpVerif.Geom SpVerif.Frames SpVerif.Join SpVerif.Lists

theorem pairsK_eq {left : List (Option Pt)} {right : List (Option Elem)} {k : Nat → Bool}
    (hs : ∀ i j, i < left.length → hit (left.getD i none) (right.getD j none) = true → k j = true) :
    pairsK left right k = pairs left right := by
  unfold pairsK pairs
  refine flatMap_filter_of_nil fun j _ hk => ?_
  rw [List.map_eq_nil_iff, List.filter_eq_nil_iff]
  intro i hi hh
  rw [hs i j (List.mem_range.mp hi) hh] at hk
  cases hk

theorem joinK_eq (how : How) (hhow : how ≠ .right) {left : List (Option Pt)} {right : List (Option Elem)} {k : Nat → Bool}
    (hs : ∀ i j, i < left.length → hit (left.getD i none) (right.getD j none) = true → k j = true) :
    joinK how left right k = join how left right := by
  unfold joinK join
  rw [pairsK_eq hs]
  cases how with
  | inner => rfl
  | left => rfl
  | right => exact absurd rfl hhow

theorem rowsOf_shift (how : How) (right : List (Option Elem)) (P : List (Option Pt)) (off : Nat) :
    (P.zipIdx.flatMap (rowsOf how right)).map (shift off) = (P.zipIdx off).flatMap (rowsOf how right) := by
  rw [List.map_flatMap, List.zipIdx_eq_map_add (i := off), List.flatMap_map]
  refine List.flatMap_congr fun x _ => ?_
  simp [rowsOf, apply_ite (List.map (shift off)), shift, Function.comp_def, Nat.add_comm]

theorem daskJoin_left (right : List (Option Elem)) (keep : List (Option Pt) → Nat → Bool) :
    ∀ (parts : List (List (Option Pt))) (off : Nat),
      (∀ P ∈ parts, ∀ i j, i < P.length → hit (P.getD i none) (right.getD j none) = true → keep P j = true) →
      daskJoin .left right keep off parts = (parts.flatten.zipIdx off).flatMap (rowsOf .left right)
  | [], _, _ => rfl
  | P :: rest, off, hs => by
    rw [daskJoin, joinK_eq .left (by decide) (hs P List.mem_cons_self), join_left_rows, rowsOf_shift,
      daskJoin_left right keep rest _ fun Q hQ => hs Q (List.mem_cons_of_mem _ hQ), List.flatten_cons, List.zipIdx_append,
      List.flatMap_append]

theorem daskJoin_inner (right : List (Option Elem)) (keep : List (Option Pt) → Nat → Bool) :
    ∀ (parts : List (List (Option Pt))) (off : Nat),
      (∀ P ∈ parts, ∀ i j, i < P.length → hit (P.getD i none) (right.getD j none) = true → keep P j = true) →
      (daskJoin .inner right keep off parts).Perm ((parts.flatten.zipIdx off).flatMap (rowsOf .inner right))
  | [], _, _ => .refl _
  | P :: rest, off, hs => by
    rw [daskJoin, joinK_eq .inner (by decide) (hs P List.mem_cons_self), List.flatten_cons, List.zipIdx_append,
      List.flatMap_append, ← rowsOf_shift]
    exact ((join_inner_rows P right).map _).append (daskJoin_inner right keep rest _ fun Q hQ => hs Q (List.mem_cons_of_mem _ hQ))

end SpVerif.DaskJoin
