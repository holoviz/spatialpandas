import SpVerif.Lemmas.HilbertBits
import SpVerif.Lemmas.ListFacts
/-! C07, every dimension `n`: the two routines of `hilbert_curve.py` are inverse to each other, stage by stage.  Every elementary
step of the "undo excess work" loops is an involution, and the encode loop runs the decode loop's steps in reverse order; Gray
encode and decode are inverse (through `adjXor`); the bit transposition and the re-interleaving are inverse (bit by bit).  Then
the ranges (`AllLt`) and the two round trips `distN_coordN`, `coordN_distN`. -/
namespace SpVerif.Hilbert

def AllLt (p : Nat) (X : List Nat) : Prop := ∀ x ∈ X, x < 2 ^ p

theorem allLt_cons {p x : Nat} {xs : List Nat} : AllLt p (x :: xs) ↔ x < 2 ^ p ∧ AllLt p xs := List.forall_mem_cons

theorem allLt_map {α : Type} {p : Nat} {f : α → Nat} {l : List α} (h : ∀ a ∈ l, f a < 2 ^ p) : AllLt p (l.map f) :=
  List.forall_mem_map.2 h

theorem AllLt.getD {p : Nat} {X : List Nat} (hX : AllLt p X) (i : Nat) : X.getD i 0 < 2 ^ p := by
  rw [List.getD_eq_getElem?_getD]
  cases h : X[i]? with
  | none => exact Nat.two_pow_pos p
  | some x => exact hX x (List.mem_of_getElem? h)

theorem step_cons_zero (q a : Nat) (Xs : List Nat) :
    step q 0 (a :: Xs) = (if a.testBit q then a ^^^ (2 ^ q - 1) else a) :: Xs := by
  simp only [step, List.getD_cons_zero, List.set_cons_zero, Nat.xor_self, Nat.zero_and, Nat.xor_zero]
  split <;> rfl

theorem step_cons_succ (q j a : Nat) (Xs : List Nat) :
    step q (j + 1) (a :: Xs) =
      if (Xs.getD j 0).testBit q then (a ^^^ (2 ^ q - 1)) :: Xs
      else (a ^^^ ((a ^^^ Xs.getD j 0) &&& (2 ^ q - 1))) :: Xs.set j (Xs.getD j 0 ^^^ ((a ^^^ Xs.getD j 0) &&& (2 ^ q - 1))) := by
  simp only [step, List.getD_cons_succ, List.getD_cons_zero, List.set_cons_zero, List.set_cons_succ]

theorem step_invol (q i : Nat) (X : List Nat) (hi : i < X.length) : step q i (step q i X) = X := by
  match X, i with
  | a :: Xs, 0 =>
    rw [step_cons_zero, step_cons_zero]
    by_cases hb : a.testBit q <;> simp [hb, xor_xor_cancel]
  | a :: Xs, j + 1 =>
    have hj : j < Xs.length := Nat.lt_of_succ_lt_succ hi
    rw [step_cons_succ]
    by_cases hb : (Xs.getD j 0).testBit q
    · rw [if_pos hb, step_cons_succ, if_pos hb, xor_xor_cancel]
    · -- the first step leaves bit `q` of word `j + 1` alone, so the second takes the same branch and recomputes the same `t`
      rw [if_neg hb, step_cons_succ, Lists.getD_set_self _ hj, testBit_xor_masked, if_neg hb, xor_xor_xor_cancel,
        xor_xor_cancel, xor_xor_cancel, List.set_set, Lists.set_getD_self]

theorem step_id {q i : Nat} {X : List Nat} (hb : (X.getD i 0).testBit q = false)
    (ht : (X.getD 0 0 ^^^ X.getD i 0) &&& (2 ^ q - 1) = 0) : step q i X = X := by
  simp only [step, hb, ht, Bool.false_eq_true, if_false, Nat.xor_zero, Lists.set_getD_self]

theorem length_step (q i : Nat) (X : List Nat) : (step q i X).length = X.length := by
  unfold step; split <;> simp only [List.length_set]

def InvOn {α : Type} (S : α → Prop) (f g : α → α) : Prop := ∀ x, S x → S (f x) ∧ g (f x) = x

theorem InvOn.comp {α : Type} {S : α → Prop} {f g f' g' : α → α} (h : InvOn S f g) (h' : InvOn S f' g') :
    InvOn S (fun x => f' (f x)) (fun x => g (g' x)) := fun x hx => by
  obtain ⟨h1, h2⟩ := h x hx
  obtain ⟨h3, h4⟩ := h' _ h1
  exact ⟨h3, by simp only [h4, h2]⟩

theorem foldl_cancel {α ι : Type} {S : α → Prop} {f : α → ι → α} {is : List ι} (h : ∀ i ∈ is, InvOn S (f · i) (f · i)) :
    InvOn S (is.foldl f ·) (is.reverse.foldl f ·) := by
  induction is with
  | nil => exact fun a ha => ⟨ha, rfl⟩
  | cons i rest ih =>
    simp only [List.reverse_cons, List.foldl_append, List.foldl_cons, List.foldl_nil]
    exact (h i List.mem_cons_self).comp (ih fun j hj => h j (List.mem_cons_of_mem _ hj))

theorem loops_inverse {S : List Nat → Prop} {n k : Nat} (h : ∀ q i, q < k → i < n → InvOn S (step q i) (step q i)) :
    InvOn S (undoLoopN n k) (redoLoopN n k) ∧ InvOn S (redoLoopN n k) (undoLoopN n k) :=
  match k with
  | 0 | 1 => ⟨fun _ hX => ⟨hX, rfl⟩, fun _ hX => ⟨hX, rfl⟩⟩
  | k + 2 => by
    have ih := loops_inverse (n := n) (k := k + 1) (fun q i hq => h q i (by omega))
    have round (is : List Nat) (his : ∀ i ∈ is, i < n) :=
      foldl_cancel (is := is) (fun i hi => h (k + 1) i (by omega) (his i hi))
    -- order `k + 2` decodes by order `k + 1` and then the round at bit `k + 1`; it encodes by that round, the words in the other
    -- order, and then order `k + 1`
    have r := round (List.range n).reverse (by simp)
    rw [List.reverse_reverse] at r
    exact ⟨ih.1.comp r, (round (List.range n) (by simp)).comp ih.2⟩

theorem loops_length (n k : Nat) :
    InvOn (·.length = n) (undoLoopN n k) (redoLoopN n k) ∧ InvOn (·.length = n) (redoLoopN n k) (undoLoopN n k) :=
  loops_inverse fun q i _ hi Z hZ => ⟨by rw [length_step, hZ], step_invol q i Z (hZ ▸ hi)⟩

theorem undoLoopN_fixed {n k : Nat} {Z : List Nat} (h : ∀ q i, q < k → i < n → step q i Z = Z) : undoLoopN n k Z = Z :=
  ((loops_inverse (S := (· = Z)) fun q i hq hi X hX => by rw [hX, h q i hq hi]; exact ⟨rfl, h q i hq hi⟩).1 Z rfl).1

/-- the Gray decode of `hilbert_curve.py` is `adjXor t` (`grayDecodeN_eq`); stated by recursion on the list so that `prefixXor`
undoes it by a plain induction -/
def adjXor : Nat → List Nat → List Nat
  | _, [] => []
  | a, x :: xs => (x ^^^ a) :: adjXor x xs

theorem adjXor_eq_map (a : Nat) (X : List Nat) :
    (List.range X.length).map (fun i => if i = 0 then X.getD 0 0 ^^^ a else X.getD i 0 ^^^ X.getD (i - 1) 0) = adjXor a X := by
  induction X generalizing a with
  | nil => rfl
  | cons x xs ih =>
    rw [adjXor, ← ih x, List.length_cons, List.range_succ_eq_map, List.map_cons, List.map_map]
    congr 1
    apply List.map_congr_left
    intro i _
    cases i <;> rfl

theorem grayDecodeN_eq (X : List Nat) : grayDecodeN X = adjXor (X.getD (X.length - 1) 0 >>> 1) X :=
  adjXor_eq_map _ X

theorem prefixXor_adjXor (a b : Nat) (X : List Nat) : prefixXor a (adjXor b X) = X.map (· ^^^ (a ^^^ b)) := by
  induction X generalizing a b with
  | nil => rfl
  | cons x xs ih =>
    have e : x ^^^ b ^^^ a = x ^^^ (a ^^^ b) := by ac_rfl
    rw [adjXor, prefixXor, e, ih, List.map_cons, Nat.xor_comm (x ^^^ (a ^^^ b)) x, xor_cancel_left]

theorem adjXor_prefixXor (a t : Nat) (X : List Nat) : adjXor (a ^^^ t) ((prefixXor a X).map (· ^^^ t)) = X := by
  induction X generalizing a with
  | nil => rfl
  | cons x xs ih => rw [prefixXor, List.map_cons, adjXor, ih, xor_xor_xor_cancel, xor_xor_cancel]

theorem adjXor_replicate (a v n : Nat) : adjXor a (List.replicate (n + 1) v) = (v ^^^ a) :: List.replicate n 0 := by
  induction n generalizing a with
  | zero => rfl
  | succ n ih => rw [List.replicate_succ, adjXor, ih, Nat.xor_self, ← List.replicate_succ]

theorem length_prefixXor (acc : Nat) (X : List Nat) : (prefixXor acc X).length = X.length := by
  induction X generalizing acc with
  | nil => rfl
  | cons x xs ih => simp [prefixXor, ih]

theorem prefixXor_allLt (p acc : Nat) (X : List Nat) (hacc : acc < 2 ^ p) (hX : AllLt p X) : AllLt p (prefixXor acc X) := by
  induction X generalizing acc with
  | nil => exact hX
  | cons x xs ih =>
    have hx := Nat.xor_lt_two_pow (allLt_cons.1 hX).1 hacc
    exact allLt_cons.2 ⟨hx, ih _ hx (allLt_cons.1 hX).2⟩

theorem grayEncodeN_decodeN (p : Nat) (X : List Nat) (hne : 0 < X.length) (hlast : X.getD (X.length - 1) 0 < 2 ^ p) :
    grayEncodeN p (grayDecodeN X) = X := by
  rw [grayDecodeN_eq, grayEncodeN, prefixXor_adjXor]
  simp only [List.length_map, Nat.zero_xor]
  rw [Lists.getD_map _ 0 (by omega), tLoop_gray p _ hlast, List.map_map]
  exact (List.map_congr_left fun x _ => xor_xor_cancel _ _).trans (List.map_id X)

theorem grayDecodeN_encodeN (p : Nat) (X : List Nat) (hne : 0 < X.length) (hX : AllLt p X) :
    grayDecodeN (grayEncodeN p X) = X := by
  have hlen := length_prefixXor 0 X
  have hlast := (prefixXor_allLt p 0 X (Nat.two_pow_pos p) hX).getD (X.length - 1)
  rw [grayDecodeN_eq, grayEncodeN]
  simp only [List.length_map, hlen]
  rw [Lists.getD_map _ 0 (by omega), tLoop_fix p _ hlast]
  have := adjXor_prefixXor 0 (tLoop (p - 1) 0 ((prefixXor 0 X).getD (X.length - 1) 0)) X
  rwa [Nat.zero_xor] at this

theorem transposeWord_lt (p n i h : Nat) : transposeWord p n i h < 2 ^ p := bitsum_lt p _

theorem transposeWord_succ (p n i h : Nat) :
    transposeWord (p + 1) n i h = 2 * transposeWord p n i (h >>> n) + (if h.testBit (n - 1 - i) then 1 else 0) := by
  -- bit `j + 1` of the word is bit `n (j + 1) + (n - 1 - i)` of `h`, that is bit `n j + (n - 1 - i)` of `h >>> n`
  have hidx : ∀ j, n * (j + 1) + (n - 1 - i) = n + (n * j + (n - 1 - i)) := fun j => by rw [Nat.mul_succ]; omega
  simp only [transposeWord, bitsum_succ_low, Nat.testBit_shiftRight, hidx, Nat.mul_zero, Nat.zero_add]

theorem length_toTranspose (p n h : Nat) : (toTranspose p n h).length = n := by simp [toTranspose]

theorem getD_toTranspose (p n h : Nat) {i : Nat} (hi : i < n) : (toTranspose p n h).getD i 0 = transposeWord p n i h :=
  Lists.getD_map_range _ hi

theorem testBit_transposeWord (p n i h j : Nat) :
    (transposeWord p n i h).testBit j = (decide (j < p) && h.testBit (n * j + (n - 1 - i))) :=
  testBit_bitsum _ _ _

theorem testBit_fromTranspose (p : Nat) (X : List Nat) (e : Nat) :
    (fromTranspose p X).testBit e
      = (decide (e < X.length * p) && (X.getD (X.length - 1 - e % X.length) 0).testBit (e / X.length)) :=
  testBit_bitsum _ _ _

theorem fromTranspose_toTranspose (p n h : Nat) (hn : 0 < n) (hh : h < 2 ^ (n * p)) :
    fromTranspose p (toTranspose p n h) = h := by
  apply Nat.eq_of_testBit_eq
  intro e
  rw [testBit_fromTranspose, length_toTranspose]
  by_cases he : e < n * p
  · have hdiv : e / n < p := (Nat.div_lt_iff_lt_mul hn).2 (Nat.mul_comm n p ▸ he)
    rw [getD_toTranspose p n h (by omega), testBit_transposeWord,
      Nat.sub_sub_self (Nat.le_sub_one_of_lt (Nat.mod_lt e hn)), Nat.div_add_mod]
    simp [he, hdiv]
  · simp only [he, decide_false, Bool.false_and]
    exact (testBit_ge_of_lt hh (Nat.le_of_not_lt he)).symm

theorem toTranspose_fromTranspose (p : Nat) (X : List Nat) (hn : 0 < X.length) (hX : AllLt p X) :
    toTranspose p X.length (fromTranspose p X) = X := by
  refine (List.map_congr_left fun i hi => ?_).trans (Lists.map_getD_range X 0)
  have hr : X.length - 1 - i < X.length := by omega
  apply Nat.eq_of_testBit_eq
  intro j
  rw [testBit_transposeWord, testBit_fromTranspose, Nat.mul_add_mod, Nat.mod_eq_of_lt hr, Nat.mul_add_div hn,
    Nat.div_eq_of_lt hr, Nat.add_zero, Nat.sub_sub_self (Nat.le_sub_one_of_lt (List.mem_range.mp hi))]
  by_cases hj : j < p
  · have : X.length * j + X.length ≤ X.length * p := Nat.mul_succ _ _ ▸ Nat.mul_le_mul_left _ hj
    simp [hj, Nat.lt_of_lt_of_le (Nat.add_lt_add_left hr _) this]
  · simp only [hj, decide_false, Bool.false_and]
    exact (testBit_ge_of_lt (hX.getD i) (Nat.le_of_not_lt hj)).symm

theorem toTranspose_allLt (p n h : Nat) : AllLt p (toTranspose p n h) :=
  allLt_map fun i _ => transposeWord_lt p n i h

theorem allLt_set {p : Nat} {X : List Nat} (h : AllLt p X) (i v : Nat) (hv : v < 2 ^ p) : AllLt p (X.set i v) := by
  intro x hx
  rcases List.mem_or_eq_of_mem_set hx with h1 | h1
  · exact h x h1
  · rw [h1]; exact hv

theorem step_allLt {p q : Nat} (hq : q ≤ p) (i : Nat) {X : List Nat} (h : AllLt p X) : AllLt p (step q i X) := by
  have hP : 2 ^ q - 1 < 2 ^ p := mask_lt hq
  unfold step
  simp only
  split
  · exact allLt_set h 0 _ (Nat.xor_lt_two_pow (h.getD 0) hP)
  · have ht : (X.getD 0 0 ^^^ X.getD i 0) &&& (2 ^ q - 1) < 2 ^ p :=
      Nat.lt_of_le_of_lt Nat.and_le_right hP
    have h1 := allLt_set h 0 _ (Nat.xor_lt_two_pow (h.getD 0) ht)
    exact allLt_set h1 i _ (Nat.xor_lt_two_pow (h1.getD i) ht)

theorem loops_grid (n p : Nat) :
    InvOn (fun X => X.length = n ∧ AllLt p X) (undoLoopN n p) (redoLoopN n p) ∧
    InvOn (fun X => X.length = n ∧ AllLt p X) (redoLoopN n p) (undoLoopN n p) :=
  loops_inverse fun q i hq hi Z hZ =>
    ⟨⟨by rw [length_step, hZ.1], step_allLt (Nat.le_of_lt hq) i hZ.2⟩, step_invol q i Z (hZ.1 ▸ hi)⟩

theorem grayEncodeN_allLt (p : Nat) {X : List Nat} (h : AllLt p X) : AllLt p (grayEncodeN p X) :=
  allLt_map fun y hy => Nat.xor_lt_two_pow (prefixXor_allLt p 0 X (Nat.two_pow_pos p) h y hy)
    (Nat.lt_of_lt_of_le (tLoop_lt _ _) (Nat.pow_le_pow_right Nat.two_pos (Nat.sub_le p 1)))

theorem length_grayEncodeN (p : Nat) (X : List Nat) : (grayEncodeN p X).length = X.length := by
  rw [grayEncodeN, List.length_map, length_prefixXor]

theorem length_grayDecodeN (X : List Nat) : (grayDecodeN X).length = X.length := by
  rw [grayDecodeN, List.length_map, List.length_range]

theorem grayDecodeN_allLt (p : Nat) {X : List Nat} (h : AllLt p X) : AllLt p (grayDecodeN X) :=
  allLt_map fun i _ => by
    split
    · exact Nat.xor_lt_two_pow (h.getD 0) (Nat.lt_of_le_of_lt (Nat.shiftRight_le _ _) (h.getD _))
    · exact Nat.xor_lt_two_pow (h.getD i) (h.getD (i - 1))

theorem coordN_range (p n h : Nat) : (coordN p n h).length = n ∧ AllLt p (coordN p n h) :=
  ((loops_grid n p).1 _
    ⟨by rw [length_grayDecodeN, length_toTranspose], grayDecodeN_allLt p (toTranspose_allLt p n h)⟩).1

theorem distN_lt (p : Nat) (X : List Nat) : distN p X < 2 ^ (X.length * p) := by
  unfold distN fromTranspose
  simp only [length_grayEncodeN, ((loops_length X.length p).2 X rfl).1]
  exact bitsum_lt _ _

theorem distN_coordN (p n h : Nat) (hn : 0 < n) (hh : h < 2 ^ (n * p)) : distN p (coordN p n h) = h := by
  unfold distN coordN
  have hT : (toTranspose p n h).length = n := length_toTranspose p n h
  obtain ⟨hl, hinv⟩ := (loops_length n p).1 (grayDecodeN (toTranspose p n h)) ((length_grayDecodeN _).trans hT)
  rw [hl, hinv, grayEncodeN_decodeN p _ (by rw [hT]; exact hn)]
  · exact fromTranspose_toTranspose p n h hn hh
  · rw [hT, getD_toTranspose p n h (by omega)]
    exact transposeWord_lt p n _ h

theorem coordN_distN (p : Nat) (X : List Nat) (hn : 0 < X.length) (hX : AllLt p X) :
    coordN p X.length (distN p X) = X := by
  unfold distN coordN
  obtain ⟨⟨hR, hRl⟩, hinv⟩ := (loops_grid X.length p).2 X ⟨rfl, hX⟩
  have hE : (grayEncodeN p (redoLoopN X.length p X)).length = X.length := by rw [length_grayEncodeN, hR]
  have := toTranspose_fromTranspose p _ (by rw [hE]; exact hn) (grayEncodeN_allLt p hRl)
  rw [hE] at this
  rw [this, grayDecodeN_encodeN p _ (by rw [hR]; exact hn) hRl, hinv]

end SpVerif.Hilbert
