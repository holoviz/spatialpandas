import SpVerif.Lemmas.HilbertN
/-! C07, every dimension: the curve at special distances.  Distance 0 is the origin; the last distance is the cell
`(2^p − 1, 0, …, 0)` (for `p ≥ 1`); in one dimension the curve is the identity (so consecutive distances are neighbours and
successive orders refine each other). -/
namespace SpVerif.Hilbert

theorem toTranspose_const {p n h w : Nat} (hw : ∀ i, i < n → transposeWord p n i h = w) :
    toTranspose p n h = List.replicate n w := by
  have := List.map_eq_replicate_iff.2 (fun i hi => hw i (List.mem_range.1 hi))
  rwa [List.length_range] at this

theorem toTranspose_zero (p n : Nat) : toTranspose p n 0 = List.replicate n 0 :=
  toTranspose_const fun i _ => by simp only [transposeWord, Nat.zero_testBit, bitsum_false]

theorem grayDecodeN_replicate (m w : Nat) :
    grayDecodeN (List.replicate (m + 1) w) = (w ^^^ w >>> 1) :: List.replicate m 0 := by
  rw [grayDecodeN_eq, adjXor_replicate, Lists.getD_replicate, List.length_replicate, if_pos (by omega)]

/-- `h` leaves out the one step that does act on such a state: word 0 read at a set bit `q` -/
theorem step_head_id {q a : Nat} (ha : HighMask q a) (i m : Nat) (h : a.testBit q = false ∨ 1 ≤ i) :
    step q i (a :: List.replicate m 0) = a :: List.replicate m 0 := by
  cases i with
  | zero => exact step_id (h.resolve_right (by omega)) (by rw [Nat.xor_self, Nat.zero_and])
  | succ j =>
    exact step_id (by rw [List.getD_cons_succ, Lists.getD_replicate, ite_self, Nat.zero_testBit])
      (by rw [List.getD_cons_succ, Lists.getD_replicate, ite_self, Nat.xor_zero]; exact and_mask_high ha)

theorem undoLoopN_head_id {k a : Nat} (ha : HighMask k a) (n m : Nat) :
    undoLoopN n k (a :: List.replicate m 0) = a :: List.replicate m 0 :=
  undoLoopN_fixed fun q i hq _ => step_head_id (highMask_mono ha (Nat.le_of_lt hq)) i m (Or.inl (ha q hq))

theorem coordN_zero (p n : Nat) : coordN p n 0 = List.replicate n 0 := by
  cases n with
  | zero => exact List.eq_nil_of_length_eq_zero (coordN_range p 0 0).1
  | succ m =>
    rw [coordN, toTranspose_zero, grayDecodeN_replicate]
    exact undoLoopN_head_id (highMask_zero p) _ m

theorem transposeWord_ones (p n i : Nat) (hi : i < n) : transposeWord p n i (2 ^ (n * p) - 1) = 2 ^ p - 1 := by
  apply Nat.eq_of_testBit_eq
  intro e
  rw [testBit_transposeWord, Nat.testBit_two_pow_sub_one, Nat.testBit_two_pow_sub_one]
  by_cases he : e < p
  · have : n * e + n ≤ n * p := Nat.mul_succ n e ▸ Nat.mul_le_mul_left n he
    simp [he, show n * e + (n - 1 - i) < n * p by omega]
  · simp [he]

theorem toTranspose_ones (p n : Nat) : toTranspose p n (2 ^ (n * p) - 1) = List.replicate n (2 ^ p - 1) :=
  toTranspose_const (transposeWord_ones p n)

theorem coordN_last (p n : Nat) (hp : 1 ≤ p) (hn : 1 ≤ n) :
    coordN p n (2 ^ (n * p) - 1) = (2 ^ p - 1) :: List.replicate (n - 1) 0 := by
  obtain ⟨m, rfl⟩ : ∃ m, n = m + 1 := ⟨n - 1, by omega⟩
  obtain ⟨k, rfl⟩ : ∃ k, p = k + 1 := ⟨p - 1, by omega⟩
  -- the Gray decode of the last distance is the top bit of word 0 alone; every step leaves it alone (`step_head_id`) except the
  -- very last one, word 0 at the top bit, which complements word 0 below the top bit
  rw [coordN, toTranspose_ones, grayDecodeN_replicate, ones_xor_shift _ hp, Nat.add_sub_cancel, Nat.add_sub_cancel]
  cases k with
  | zero => rfl
  | succ k =>
    rw [undoLoopN, undoLoopN_head_id (highMask_two_pow (k + 1)), List.range_succ_eq_map,
      List.reverse_cons, List.foldl_append, ← List.map_reverse, List.foldl_map,
      Lists.foldl_fixed (a := 2 ^ (k + 1) :: List.replicate m 0) (f := fun Z j => step (k + 1) (j + 1) Z)
        fun j _ => step_head_id (highMask_two_pow (k + 1)) (j + 1) m (Or.inr (Nat.succ_pos j))]
    simp only [List.foldl_cons, List.foldl_nil]
    rw [step_cons_zero, Nat.testBit_two_pow_self, if_pos rfl, two_pow_xor_mask]

theorem transposeWord_one (p h : Nat) (hh : h < 2 ^ p) : transposeWord p 1 0 h = h := by
  apply Nat.eq_of_testBit_eq
  intro e
  rw [testBit_transposeWord]
  simp only [Nat.one_mul, Nat.sub_self, Nat.add_zero]
  by_cases he : e < p
  · simp [he]
  · simp [he, testBit_ge_of_lt hh (Nat.le_of_not_lt he)]

/-- with one word the decode loop xors in the very mask that the Gray *encoder* accumulates: step `q` looks at bit `q`, which the
earlier steps (they write below their own `q`) have left alone -/
theorem undoLoopN_single (g : Nat) : ∀ k, undoLoopN 1 k [g] = [g ^^^ tLoop (k - 1) 0 g]
  | 0 => by simp [undoLoopN, tLoop]
  | 1 => by simp [undoLoopN, tLoop]
  | k + 2 => by
    have hb : (g ^^^ tLoop k 0 g).testBit (k + 1) = g.testBit (k + 1) := by
      rw [Nat.testBit_xor, testBit_ge_of_lt (tLoop_lt k g) (Nat.le_succ k), Bool.xor_false]
    rw [undoLoopN, undoLoopN_single g (k + 1), Nat.add_sub_cancel, show (List.range 1).reverse = [0] from rfl,
      List.foldl_cons, List.foldl_nil, show k + 2 - 1 = k + 1 from rfl, tLoop,
      tLoop_xor k (if g.testBit (k + 1) = true then 0 ^^^ (2 ^ (k + 1) - 1) else 0), step_cons_zero, hb]
    split
    · rw [Nat.zero_xor, Nat.xor_assoc, Nat.xor_comm (tLoop k 0 g)]
    · rw [Nat.zero_xor]

theorem coordN_one (p h : Nat) (hh : h < 2 ^ p) : coordN p 1 h = [h] := by
  have ht : toTranspose p 1 h = [h] := by simp [toTranspose, transposeWord_one p h hh]
  have hg : grayDecodeN [h] = [h ^^^ (h >>> 1)] := by simp [grayDecodeN]
  rw [coordN, ht, hg, undoLoopN_single, tLoop_gray p h hh, xor_xor_cancel]

end SpVerif.Hilbert
