import SpVerif.Model.RTreeIndex
/-! C03: closed forms of the array-tree index arithmetic (DESIGN Appendix C). -/
namespace SpVerif.RTreeIndex

theorem leafStart_eq (D : Nat) : leafStart (2 * 2 ^ D - 1) = 2 ^ D - 1 := by
  rw [leafStart, Nat.sub_add_cancel (Nat.mul_pos (by decide) (Nat.two_pow_pos D)), Nat.mul_div_cancel_left _ (by decide)]

/-- the node at depth `t`, position `j` (from the left) is stored at `2^t − 1 + j`; its children are the positions `2j` (`c = 0`,
the left one) and `2j+1` (`c = 1`) of the next level -/
theorem child_c (t j c : Nat) : 2 * (2 ^ t - 1 + j) + 1 + c = 2 ^ (t + 1) - 1 + (2 * j + c) := by
  have := Nat.two_pow_pos t
  omega

theorem child_eq (t j : Nat) :
    leftChild (2 ^ t - 1 + j) = 2 ^ (t + 1) - 1 + 2 * j ∧ rightChild (2 ^ t - 1 + j) = 2 ^ (t + 1) - 1 + (2 * j + 1) :=
  ⟨child_c t j 0, child_c t j 1⟩

/-- `_start_index` (`c = 0`) and `_stop_index` (`c = 1`) are the same walk: to the child `2·node + 1 + c` until that is beyond the
array, then `(node − leaf_start + c)·ps`.  From the node at depth `t`, position `j`, with `h` levels below it, the walk ends at
page `(j + c)·2^h − c`. -/
theorem walk_eq (D ps c : Nat) (hc : c ≤ 1) (g : Nat → Nat → Nat)
    (g0 : ∀ node, g 0 node = (node - leafStart (2 * 2 ^ D - 1) + c) * ps)
    (gs : ∀ fuel node, g (fuel + 1) node =
      if 2 * node + 1 + c ≥ 2 * 2 ^ D - 1 then (node - leafStart (2 * 2 ^ D - 1) + c) * ps else g fuel (2 * node + 1 + c))
    (h : Nat) : ∀ (t j fuel : Nat), t + h = D → j < 2 ^ t → h ≤ fuel → g fuel (2 ^ t - 1 + j) = (j + c) * 2 ^ h * ps := by
  induction h with
  | zero =>
    intro t j fuel htd hj _
    obtain rfl : t = D := htd
    have hp := Nat.two_pow_pos t
    have hval : (2 ^ t - 1 + j - leafStart (2 * 2 ^ t - 1) + c) * ps = (j + c) * 2 ^ 0 * ps := by
      rw [leafStart_eq, Nat.add_sub_cancel_left, Nat.pow_zero, Nat.mul_one]
    cases fuel with
    | zero => rw [g0, hval]
    | succ f => rw [gs, if_pos (by omega), hval]
  | succ h ih =>
    intro t j fuel htd hj hfuel
    obtain ⟨f, rfl⟩ : ∃ f, fuel = f + 1 := Nat.exists_eq_add_one_of_ne_zero (Nat.ne_zero_of_lt hfuel)
    have hp := Nat.two_pow_pos t
    have h2t : 2 ^ (t + 1) = 2 * 2 ^ t := Nat.pow_succ'
    have hj' : 2 * j + c < 2 ^ (t + 1) := by omega
    -- the node is above the last level, so its child is inside the array
    have hlt : 2 ^ (t + 1) ≤ 2 ^ D := Nat.pow_le_pow_right (by decide) (by omega)
    rw [gs, child_c, if_neg (by omega), ih (t + 1) (2 * j + c) f (by omega) hj' (Nat.le_of_succ_le_succ hfuel),
      show 2 * j + c + c = (j + c) * 2 by omega, Nat.pow_succ', Nat.mul_assoc (j + c)]

theorem startIndex_eq {D h t j fuel : Nat} (ps : Nat) (htd : t + h = D) (hj : j < 2 ^ t) (hf : h ≤ fuel) :
    startIndex (2 * 2 ^ D - 1) ps fuel (2 ^ t - 1 + j) = j * 2 ^ h * ps :=
  walk_eq D ps 0 (by omega) (startIndex _ ps) (fun _ => rfl) (fun _ _ => rfl) h t j fuel htd hj hf

theorem stopIndex_eq {D h t j fuel : Nat} (ps : Nat) (htd : t + h = D) (hj : j < 2 ^ t) (hf : h ≤ fuel) :
    stopIndex (2 * 2 ^ D - 1) ps fuel (2 ^ t - 1 + j) = (j + 1) * 2 ^ h * ps :=
  walk_eq D ps 1 (by omega) (stopIndex _ ps) (fun _ => rfl) (fun _ _ => rfl) h t j fuel htd hj hf

/-- what each conjunct means for `rtree.py` is said at `C03_index_arithmetic` -/
theorem index_arithmetic (D ps t j : Nat) (hps : 1 ≤ ps) (ht : t ≤ D) (hj : j < 2 ^ t) :
    let len := 2 * 2 ^ D - 1
    let node := 2 ^ t - 1 + j
    leftChild node = 2 ^ (t + 1) - 1 + 2 * j ∧ rightChild node = 2 ^ (t + 1) - 1 + (2 * j + 1) ∧
    startIndex len ps len node = j * 2 ^ (D - t) * ps ∧
    stopIndex len ps len node = (j + 1) * 2 ^ (D - t) * ps ∧
    (stopIndex len ps len node - startIndex len ps len node ≤ ps ↔ t = D) := by
  intro len node
  have hfuel : D - t ≤ len :=
    Nat.le_trans (Nat.sub_le D t) (Nat.le_sub_one_of_lt (Nat.lt_of_lt_of_le Nat.lt_two_pow_self (Nat.le_mul_of_pos_left _ (by decide))))
  have hs := startIndex_eq ps (Nat.add_sub_cancel' ht) hj hfuel
  have he := stopIndex_eq ps (Nat.add_sub_cancel' ht) hj hfuel
  refine ⟨(child_eq t j).1, (child_eq t j).2, hs, he, ?_⟩
  -- the node covers `2^(D−t)` pages
  rw [hs, he, Nat.succ_mul, Nat.add_mul, Nat.add_sub_cancel_left]
  constructor
  · intro hle
    -- a node above the last level covers at least two pages
    refine Nat.le_antisymm ht (Nat.le_of_not_lt fun hlt => ?_)
    have h2 : 2 ^ 1 ≤ 2 ^ (D - t) := Nat.pow_le_pow_right (by decide) (Nat.sub_pos_of_lt hlt)
    have h3 : 2 ^ 1 * ps ≤ 2 ^ (D - t) * ps := Nat.mul_le_mul_right ps h2
    omega
  · rintro rfl
    simp

end SpVerif.RTreeIndex
