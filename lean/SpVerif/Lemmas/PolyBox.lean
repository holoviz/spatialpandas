import SpVerif.Lemmas.WindQ
/-! C01, polygon kinds: `_perform_polygon_intersect_bounds` is exact (`polygonIBcore_iff`).  The closed region of a polygon is read
as the points of its rings together with the points about which the winding number of all rings together is non-zero
(`PolyPoint`).  For a valid polygon (holes inside the shell, wound opposite to it) that is "shell minus holes including all ring
boundaries"; the identification of "non-zero winding" with "inside" for simple rings is the Jordan curve theorem and is not proved
here. -/
namespace SpVerif.Geom

def windAllQ (q : QPt) (rings : List (List Pt)) : Int := (rings.map (windQ q)).sum

theorem windAllQ_cast (p : Pt) (rings : List (List Pt)) : windAllQ ((p.1 : ℚ), (p.2 : ℚ)) rings = winding p rings := by
  rw [winding_eq_sum, windAllQ]
  exact congrArg List.sum (List.map_congr_left fun r _ => by rw [windQ_cast, ringWinding_eq])

theorem pointInRings_iff (p : Pt) (rings : List (List Pt)) : pointInRings p rings = true ↔ windAllQ ((p.1 : ℚ), (p.2 : ℚ)) rings ≠ 0 := by
  simp [pointInRings, windAllQ_cast]

/-- the closed point set of a polygon given by its rings -/
def PolyPoint (rings : List (List Pt)) (q : QPt) : Prop := (∃ r ∈ rings, LinePoint r q) ∨ windAllQ q rings ≠ 0

theorem linePoint_reverse {r : List Pt} {q : QPt} : LinePoint r.reverse q ↔ LinePoint r q := by
  have key : ∀ (r : List Pt), LinePoint r.reverse q → LinePoint r q := by
    intro r h
    rcases h with ⟨v, hv, e⟩ | ⟨s, hs, on⟩
    · exact Or.inl ⟨v, List.mem_reverse.mp hv, e⟩
    · -- the segments of the reversed line are those of the line, each turned round
      rw [segs_reverse, List.mem_reverse, List.mem_map] at hs
      obtain ⟨s', hs', rfl⟩ := hs
      exact Or.inr ⟨s', hs', onSeg_swap on⟩
  exact ⟨key r, fun h => key r.reverse (by rwa [List.reverse_reverse])⟩

theorem polyPoint_map_reverse (rings : List (List Pt)) (q : QPt) :
    PolyPoint (rings.map List.reverse) q ↔ PolyPoint rings q := by
  have hw : windAllQ q (rings.map List.reverse) = - windAllQ q rings := by
    rw [windAllQ, windAllQ, List.map_map, List.sum_neg, List.map_map]
    exact congrArg _ (List.map_congr_left fun r _ => windQ_reverse q r)
  rw [PolyPoint, PolyPoint, hw, neg_ne_zero]
  refine or_congr ?_ Iff.rfl
  simp only [List.mem_map, exists_exists_and_eq_and, linePoint_reverse]

theorem Closed.bboxOf_some {r : List Pt} (h : Closed r) : ∃ bb, bboxOf r = some bb :=
  Option.ne_none_iff_exists'.mp fun e => by have := h.1; simp [(bboxOf_none_iff r).mp e] at this

/-- a ring point lies in the ring's bounding box, and outside it the ring does not wind round the point -/
theorem polyPoint_bbox {rings : List (List Pt)} (hcl : ∀ r ∈ rings, Closed r) {q : QPt} (h : PolyPoint rings q) :
    ∃ BB, bboxOf rings.flatten = some BB ∧ InBoxQ BB q := by
  obtain ⟨r, hr, bbr, hbr, hin⟩ : ∃ r ∈ rings, ∃ bbr, bboxOf r = some bbr ∧ InBoxQ bbr q := by
    rcases h with ⟨r, hr, hlp⟩ | hw
    · exact ⟨r, hr, linePoint_bbox hlp⟩
    · by_contra hall
      refine hw (List.sum_eq_zero fun w hwm => ?_)
      obtain ⟨r, hr, rfl⟩ := List.mem_map.mp hwm
      obtain ⟨bbr, hbr⟩ := (hcl r hr).bboxOf_some
      exact windQ_far (hcl r hr) hbr fun hin => hall ⟨r, hr, bbr, hbr, hin⟩
  obtain ⟨BB, hBB, hs⟩ := bboxOf_sub_flatten hr hbr
  exact ⟨BB, hBB, inBoxQ_sub hs hin⟩

/-- **`_perform_polygon_intersect_bounds` is exact** for a box of positive width and height and a polygon whose rings are closed
and whose holes lie within the bounding box of its shell: the kernel answers True exactly when the closed point set of the
polygon (ring points and points of non-zero winding number) shares a point with the closed box -/
theorem polygonIBcore_iff {b : Box} (hx : b.x0 < b.x1) (hy : b.y0 < b.y1) {shell : List Pt} {holes : List (List Pt)}
    (hcl : ∀ r ∈ shell :: holes, Closed r) (hsh : bboxOf (shell :: holes).flatten = bboxOf shell) :
    polygonIBcore b (shell :: holes) = true ↔ ∃ q : QPt, InBoxQ b q ∧ PolyPoint (shell :: holes) q := by
  have hxq : (b.x0 : ℚ) ≤ b.x1 := Int.cast_le.mpr hx.le
  have hyq : (b.y0 : ℚ) ≤ b.y1 := Int.cast_le.mpr hy.le
  generalize hR : shell :: holes = rings at *
  -- the vertex and edge tests of all rings together say whether some ring has a point in the box
  have htests : (rings.flatten.any (inBox b) || rings.any (fun r => (segs r).any (segBoxEdges b))) = true ↔
      ∃ r ∈ rings, ∃ p, LinePoint r p ∧ InBoxQ b p := by
    simp only [← vertex_or_edge_iff hx hy, List.any_flatten, Bool.or_eq_true, List.any_eq_true, inBox_iff, ← exists_or,
      ← and_or_left]
  obtain ⟨bb, hbb⟩ := (hcl shell (by simp [← hR])).bboxOf_some
  rw [hbb] at hsh
  rw [polygonIBcore_eq hsh, Bool.and_eq_true, Bool.not_eq_true', Bool.or_eq_true, Bool.or_eq_true, htests, or_assoc]
  constructor
  · rintro ⟨hout, hproj | ⟨r, hr, p, hp, hin⟩ | hcorner⟩
    · obtain ⟨p, hp, hin⟩ := proj_hit hx.le hy.le hbb hout hproj
      exact ⟨p, hin, Or.inl ⟨shell, by simp [← hR], hp⟩⟩
    · exact ⟨p, hin, Or.inl ⟨r, hr, hp⟩⟩
    · simp only [Bool.or_eq_true, pointInRings_iff] at hcorner
      rcases hcorner with ((h | h) | h) | h
      · exact ⟨((b.x0 : ℚ), (b.y0 : ℚ)), ⟨le_refl _, hxq, le_refl _, hyq⟩, Or.inr h⟩
      · exact ⟨((b.x1 : ℚ), (b.y0 : ℚ)), ⟨hxq, le_refl _, le_refl _, hyq⟩, Or.inr h⟩
      · exact ⟨((b.x1 : ℚ), (b.y1 : ℚ)), ⟨hxq, le_refl _, hyq, le_refl _⟩, Or.inr h⟩
      · exact ⟨((b.x0 : ℚ), (b.y1 : ℚ)), ⟨le_refl _, hxq, hyq, le_refl _⟩, Or.inr h⟩
  · rintro ⟨q, hin, hpp⟩
    constructor
    · -- the polygon lies in its bounding box, which therefore holds `q` as well
      obtain ⟨BB, hBB, hq⟩ := polyPoint_bbox hcl hpp
      rw [hsh] at hBB; cases hBB
      exact outside_disjoint hq hin
    · by_cases hring : ∃ r ∈ rings, ∃ p, LinePoint r p ∧ InBoxQ b p
      · exact Or.inr (Or.inl hring)
      · -- no ring has a point in the box: the winding number at a corner is the winding number at `q`
        rcases hpp with ⟨r, hr, hlp⟩ | hw
        · exact absurd ⟨r, hr, q, hlp, hin⟩ hring
        · have hclear : ∀ r ∈ rings, BoxClear b r :=
            fun r hr s hs q' on hq' => hring ⟨r, hr, q', Or.inr ⟨s, hs, on⟩, hq'⟩
          have heq : windAllQ ((b.x0 : ℚ), (b.y0 : ℚ)) rings = windAllQ q rings :=
            congrArg List.sum (List.map_congr_left fun r hr =>
              windQ_const_box (hcl r hr) (hclear r hr) ⟨le_refl _, hxq, le_refl _, hyq⟩ hin)
          have : pointInRings (b.x0, b.y0) rings = true := (pointInRings_iff _ _).mpr (heq ▸ hw)
          simp [this]

end SpVerif.Geom
