import SpVerif.Model.RTree
import SpVerif.Lemmas.ListFacts
/-!
# NaN-ignoring unions as folds

Partition bounds, total bounds, leaf and node boxes are all folds of `unionOpt` over a list; the scan of `Bounds` is a fold of
`Range.union`.  Such a fold is a monoid homomorphism from lists (`Fold.foldl_op`, `Fold.foldl_map_flatten` in `ListFacts.lean`, stated
for any operation with the laws they use), and a fold of `unionOpt` contains every box that went into it (`foldl_unionOpt_contains`).
-/
namespace SpVerif.RTree

/-- `r` is contained in `b` -/
def Sub (d : Nat) (r b : NBox) : Prop := ∀ k, k < d → lo b k ≤ lo r k ∧ hi d r k ≤ hi d b k

theorem lo_union {d : Nat} {a b : NBox} {k : Nat} (h : k < d) : lo (unionBox d a b) k = min (lo a k) (lo b k) := by
  simp [unionBox, lo, List.getElem?_append_left, h]

theorem hi_union {d : Nat} {a b : NBox} {k : Nat} (h : k < d) : hi d (unionBox d a b) k = max (hi d a k) (hi d b k) := by
  simp [unionBox, hi, h]

theorem sub_refl (d : Nat) (r : NBox) : Sub d r r := fun _ _ => ⟨Int.le_refl _, Int.le_refl _⟩

theorem sub_trans {d : Nat} {a b c : NBox} (h1 : Sub d a b) (h2 : Sub d b c) : Sub d a c := by
  intro k hk
  have := h1 k hk; have := h2 k hk
  omega

theorem sub_union_left (d : Nat) (a b : NBox) : Sub d a (unionBox d a b) := by
  intro k hk
  rw [lo_union hk, hi_union hk]
  omega

theorem sub_union_right (d : Nat) (a b : NBox) : Sub d b (unionBox d a b) := by
  intro k hk
  rw [lo_union hk, hi_union hk]
  omega

theorem unionBox_assoc (d : Nat) (a b c : NBox) : unionBox d (unionBox d a b) c = unionBox d a (unionBox d b c) := by
  -- only the outer `unionBox` is opened, so that `lo_union` / `hi_union` apply to the inner ones
  show _ ++ _ = _ ++ _
  congr 1 <;> refine List.map_congr_left fun k hk => ?_
  · rw [lo_union (List.mem_range.mp hk), lo_union (List.mem_range.mp hk), Int.min_assoc]
  · rw [hi_union (List.mem_range.mp hk), hi_union (List.mem_range.mp hk), Int.max_assoc]

theorem unionOpt_assoc (d : Nat) (a b c : Option NBox) : unionOpt d (unionOpt d a b) c = unionOpt d a (unionOpt d b c) := by
  cases a <;> cases b <;> cases c <;> simp [unionOpt, unionBox_assoc]

theorem unionOpt_none_right (d : Nat) (a : Option NBox) : unionOpt d a none = a := by cases a <;> rfl
theorem unionOpt_none_left (d : Nat) (a : Option NBox) : unionOpt d none a = a := by cases a <;> rfl

variable (d : Nat) {α : Type} (g : α → Option NBox)

theorem foldl_unionOpt_append (xs ys : List α) :
    (xs ++ ys).foldl (fun a x => unionOpt d a (g x)) none =
      unionOpt d (xs.foldl (fun a x => unionOpt d a (g x)) none) (ys.foldl (fun a x => unionOpt d a (g x)) none) := by
  rw [List.foldl_append]
  exact Fold.foldl_op (unionOpt_assoc d) (unionOpt_none_right d) g ys _

theorem foldl_unionOpt_cons (x : α) (l : List α) :
    (x :: l).foldl (fun a y => unionOpt d a (g y)) none = unionOpt d (g x) (l.foldl (fun a y => unionOpt d a (g y)) none) :=
  -- the fold of `[x]` is `g x` by computation
  foldl_unionOpt_append d g [x] l

theorem foldl_unionOpt_contains {l : List α} {x : α} (hx : x ∈ l) {b : NBox} (hb : g x = some b) :
    ∃ B, l.foldl (fun a y => unionOpt d a (g y)) none = some B ∧ Sub d b B := by
  obtain ⟨xs, ys, rfl⟩ := List.append_of_mem hx
  rw [foldl_unionOpt_append, foldl_unionOpt_cons, hb]
  -- whatever the unions `X` before and `Y` after, `X ∪ (b ∪ Y)` is a box and contains `b`
  generalize xs.foldl _ none = X, ys.foldl _ none = Y
  cases X <;> cases Y
  · exact ⟨b, rfl, sub_refl d b⟩
  · exact ⟨_, rfl, sub_union_left d b _⟩
  · exact ⟨_, rfl, sub_union_right d _ b⟩
  · exact ⟨_, rfl, sub_trans (sub_union_left d b _) (sub_union_right d _ _)⟩

end SpVerif.RTree
