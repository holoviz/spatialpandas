import SpVerif.Model.Frames
/-! Bounding boxes and the kernels' tests on boxes, as far as the index and pruning layers rely on them (C04, C06, C12, C17):
`bboxOf` is the least box that holds every vertex (`bboxOf_eq_some_iff`); an element that intersects a box has a bounding box that
is not outside it (`elemIB_overlaps`); one whose bounding box lies in a box of positive width and height intersects it
(`elemIB_of_inside`). -/
namespace SpVerif.Geom

def BoxHas (bb : Box) (p : Pt) : Prop := bb.x0 ≤ p.1 ∧ p.1 ≤ bb.x1 ∧ bb.y0 ≤ p.2 ∧ p.2 ≤ bb.y1

def BoxSub (bb c : Box) : Prop := c.x0 ≤ bb.x0 ∧ bb.x1 ≤ c.x1 ∧ c.y0 ≤ bb.y0 ∧ bb.y1 ≤ c.y1

theorem boxSub_refl (a : Box) : BoxSub a a := ⟨Int.le_refl _, Int.le_refl _, Int.le_refl _, Int.le_refl _⟩

theorem boxSub_antisymm {a b : Box} (h1 : BoxSub a b) (h2 : BoxSub b a) : a = b := by
  cases a; cases b; simp only [BoxSub] at h1 h2; simp only [Box.mk.injEq]; omega

theorem boxHas_of_sub {bb BB : Box} {p : Pt} (hs : BoxSub bb BB) (h : BoxHas bb p) : BoxHas BB p := by
  simp only [BoxSub, BoxHas] at *; omega

theorem inBox_iff {b : Box} {p : Pt} : inBox b p = true ↔ BoxHas b p := by
  simp [inBox, BoxHas, and_assoc]

theorem swap_ends (a b : Int) : (if b < a then b else a) = min a b ∧ (if b < a then a else b) = max a b := by omega

theorem orientBox_eq (b : Box) : orientBox b = ⟨min b.x0 b.x1, min b.y0 b.y1, max b.x0 b.x1, max b.y0 b.y1⟩ := by
  simp only [orientBox, swap_ends]

theorem orientBox_pos {bx : Box} (hx : bx.x0 ≠ bx.x1) (hy : bx.y0 ≠ bx.y1) :
    (orientBox bx).x0 < (orientBox bx).x1 ∧ (orientBox bx).y0 < (orientBox bx).y1 := by
  rw [orientBox_eq]; simp only; omega

theorem orientBox_of_le {b : Box} (hx : b.x0 ≤ b.x1) (hy : b.y0 ≤ b.y1) : orientBox b = b := by
  cases b; simp only [orientBox_eq, Box.mk.injEq] at *; omega

theorem zeroAreaBox_false {b : Box} (hx : b.x0 < b.x1) (hy : b.y0 < b.y1) : zeroAreaBox b = false := by
  simp only [zeroAreaBox, Bool.or_eq_false_iff, beq_eq_false_iff_ne]; omega

theorem bboxOutside_eq_false {bb b : Box} :
    bboxOutside bb b = false ↔ bb.x0 ≤ b.x1 ∧ bb.y0 ≤ b.y1 ∧ b.x0 ≤ bb.x1 ∧ b.y0 ≤ bb.y1 := by
  simp only [bboxOutside, Bool.or_eq_false_iff, decide_eq_false_iff_not]; omega

theorem bboxProjInside_iff {bb b : Box} :
    bboxProjInside bb b = true ↔ (b.x0 ≤ bb.x0 ∧ bb.x1 ≤ b.x1) ∨ (b.y0 ≤ bb.y0 ∧ bb.y1 ≤ b.y1) := by
  simp only [bboxProjInside, Bool.or_eq_true, Bool.and_eq_true, decide_eq_true_eq, ge_iff_le]

theorem not_outside_of_sub {bb BB b : Box} (hs : BoxSub bb BB) (h : bboxOutside bb b = false) : bboxOutside BB b = false := by
  rw [bboxOutside_eq_false] at *; simp only [BoxSub] at hs; omega

theorem not_outside_of_has {bb b : Box} {p : Pt} (h1 : BoxHas bb p) (h2 : BoxHas b p) : bboxOutside bb b = false := by
  rw [bboxOutside_eq_false]; simp only [BoxHas] at h1 h2; omega

theorem bboxOf_none_iff (l : List Pt) : bboxOf l = none ↔ l = [] := by
  cases l with
  | nil => simp [bboxOf]
  | cons p ps => simp only [bboxOf]; split <;> simp

theorem ne_nil_of_bboxOf {l : List Pt} {bb : Box} (h : bboxOf l = some bb) : l ≠ [] := by
  rintro rfl; cases h

theorem bboxOf_some_of_mem {l : List Pt} {p : Pt} (hp : p ∈ l) : ∃ bb, bboxOf l = some bb :=
  Option.ne_none_iff_exists'.mp (fun h => by simp [(bboxOf_none_iff l).mp h] at hp)

theorem bboxOf_sub_iff {l : List Pt} {bb : Box} (h : bboxOf l = some bb) (c : Box) : BoxSub bb c ↔ ∀ p ∈ l, BoxHas c p := by
  fun_induction bboxOf l generalizing bb with
  | case1 => cases h
  | case2 q qs hq => cases h; simp [(bboxOf_none_iff qs).mp hq, BoxSub, BoxHas]
  | case3 q qs b hq ih =>
    cases h
    rw [List.forall_mem_cons, ← ih hq]
    simp only [BoxSub, BoxHas, Int.le_min, Int.max_le]; omega

theorem bboxOf_has {l : List Pt} {bb : Box} (h : bboxOf l = some bb) : ∀ p ∈ l, BoxHas bb p :=
  (bboxOf_sub_iff h bb).mp (boxSub_refl bb)

theorem mem_bbox {l : List Pt} {p : Pt} (hp : p ∈ l) : ∃ bb, bboxOf l = some bb ∧ BoxHas bb p := by
  obtain ⟨bb, hbb⟩ := bboxOf_some_of_mem hp
  exact ⟨bb, hbb, bboxOf_has hbb p hp⟩

theorem bboxOf_eq_some_iff {l : List Pt} {bb : Box} :
    bboxOf l = some bb ↔ (∃ p, p ∈ l) ∧ ∀ c, BoxSub bb c ↔ ∀ p ∈ l, BoxHas c p := by
  refine ⟨fun h => ⟨List.exists_mem_of_ne_nil l (ne_nil_of_bboxOf h), bboxOf_sub_iff h⟩, fun ⟨⟨p, hp⟩, hc⟩ => ?_⟩
  obtain ⟨bb', hb'⟩ := bboxOf_some_of_mem hp
  -- two least boxes lie in each other
  rw [hb', boxSub_antisymm ((bboxOf_sub_iff hb' bb).mpr ((hc bb).mp (boxSub_refl bb)))
    ((hc bb').mpr (bboxOf_has hb'))]

theorem bboxOf_congr (l l' : List Pt) (h : ∀ p, p ∈ l ↔ p ∈ l') : bboxOf l = bboxOf l' :=
  Option.ext fun bb => by simp only [bboxOf_eq_some_iff, h]

theorem bboxOf_sub_flatten {ls : List (List Pt)} {l : List Pt} {bb : Box} (hl : l ∈ ls) (h : bboxOf l = some bb) :
    ∃ BB, bboxOf ls.flatten = some BB ∧ BoxSub bb BB := by
  obtain ⟨p, hp⟩ := List.exists_mem_of_ne_nil l (ne_nil_of_bboxOf h)
  have hsub : ∀ q ∈ l, q ∈ ls.flatten := fun q hq => List.mem_flatten.mpr ⟨l, hl, hq⟩
  obtain ⟨BB, hBB⟩ := bboxOf_some_of_mem (hsub p hp)
  exact ⟨BB, hBB, (bboxOf_sub_iff h BB).mpr fun q hq => bboxOf_has hBB q (hsub q hq)⟩

theorem bboxOf_attains {l : List Pt} {bb : Box} (h : bboxOf l = some bb) :
    (∃ v ∈ l, v.1 = bb.x0) ∧ (∃ v ∈ l, v.2 = bb.y0) ∧ (∃ v ∈ l, v.1 = bb.x1) ∧ (∃ v ∈ l, v.2 = bb.y1) := by
  simp only [← List.mem_map]
  fun_induction bboxOf l generalizing bb with
  | case1 => cases h
  | case2 q qs hq => cases h; simp
  | case3 q qs b hq ih =>
    cases h
    -- each side is the new vertex's coordinate or the old side
    have pick {a k : Int} {s : List Int} (hk : k ∈ s) : min a k ∈ a :: s ∧ max a k ∈ a :: s := by
      rw [Int.min_def, Int.max_def]; split <;> simp [hk]
    obtain ⟨h1, h2, h3, h4⟩ := ih hq
    exact ⟨(pick h1).1, (pick h2).1, (pick h3).2, (pick h4).2⟩

theorem lineIBcore_eq {l : List Pt} {bb : Box} (h : bboxOf l = some bb) (b : Box) :
    lineIBcore b l = (!bboxOutside bb b && (bboxProjInside bb b || (l.any (inBox b) || (segs l).any (segBoxEdges b)))) := by
  simp only [lineIBcore, h]
  cases bboxOutside bb b <;> cases bboxProjInside bb b <;> cases l.any (inBox b) <;> rfl

theorem polygonIBcore_eq {rings : List (List Pt)} {bb : Box} (h : bboxOf rings.flatten = some bb) (b : Box) :
    polygonIBcore b rings = (!bboxOutside bb b && (bboxProjInside bb b ||
      (rings.flatten.any (inBox b) || rings.any (fun r => (segs r).any (segBoxEdges b))) ||
      (pointInRings (b.x0, b.y0) rings || pointInRings (b.x1, b.y0) rings ||
       pointInRings (b.x1, b.y1) rings || pointInRings (b.x0, b.y1) rings))) := by
  simp only [polygonIBcore, h]
  cases bboxOutside bb b <;> cases bboxProjInside bb b <;> cases rings.flatten.any (inBox b) <;>
    cases rings.any (fun r => (segs r).any (segBoxEdges b)) <;> rfl

theorem lineIBcore_overlaps {b : Box} {l : List Pt} (h : lineIBcore b l = true) :
    ∃ bb, bboxOf l = some bb ∧ bboxOutside bb b = false := by
  cases hb : bboxOf l with
  | none => simp [lineIBcore, hb] at h
  | some bb => rw [lineIBcore_eq hb] at h; exact ⟨bb, rfl, by simpa using (Bool.and_eq_true_iff.mp h).1⟩

theorem polygonIBcore_overlaps {b : Box} {rings : List (List Pt)} (h : polygonIBcore b rings = true) :
    ∃ bb, bboxOf rings.flatten = some bb ∧ bboxOutside bb b = false := by
  cases hb : bboxOf rings.flatten with
  | none => simp [polygonIBcore, hb] at h
  | some bb => rw [polygonIBcore_eq hb] at h; exact ⟨bb, rfl, by simpa using (Bool.and_eq_true_iff.mp h).1⟩

theorem shortcuts_of_inside {b : Box} {l : List Pt} (hne : l ≠ []) (hin : ∀ p ∈ l, BoxHas b p) :
    ∃ bb, bboxOf l = some bb ∧ bboxOutside bb b = false ∧ bboxProjInside bb b = true := by
  obtain ⟨p, hp⟩ := List.exists_mem_of_ne_nil l hne
  obtain ⟨bb, hbb, hp'⟩ := mem_bbox hp
  have hs := (bboxOf_sub_iff hbb b).mpr hin
  exact ⟨bb, hbb, not_outside_of_has hp' (hin p hp), bboxProjInside_iff.mpr (.inl ⟨hs.1, hs.2.1⟩)⟩

theorem lineIBcore_of_inside {b : Box} {l : List Pt} (hne : l ≠ []) (hin : ∀ p ∈ l, BoxHas b p) : lineIBcore b l = true := by
  obtain ⟨bb, hbb, ho, hp⟩ := shortcuts_of_inside hne hin
  simp [lineIBcore_eq hbb, ho, hp]

theorem polygonIBcore_of_inside {b : Box} {rs : List (List Pt)} (hne : rs.flatten ≠ []) (hin : ∀ p ∈ rs.flatten, BoxHas b p) :
    polygonIBcore b rs = true := by
  obtain ⟨bb, hbb, ho, hp⟩ := shortcuts_of_inside hne hin
  simp [polygonIBcore_eq hbb, ho, hp]

end SpVerif.Geom

namespace SpVerif.Frames
open SpVerif.Geom

theorem elemIB_overlaps {bx : Box} {e : Elem} (h : elemIB bx (some e) = true) :
    ∃ bb, bboxOf (elemVerts e) = some bb ∧ bboxOutside bb (orientBox bx) = false := by
  cases e with
  | point p =>
    exact ⟨⟨p.1, p.2, p.1, p.2⟩, rfl, not_outside_of_has (p := p) (by simp [BoxHas]) (inBox_iff.mp h)⟩
  | multipoint ps =>
    obtain ⟨p, hp, hin⟩ := List.any_eq_true.mp h
    obtain ⟨bb, hbb, hp'⟩ := mem_bbox hp
    exact ⟨bb, hbb, not_outside_of_has hp' (inBox_iff.mp hin)⟩
  | line l =>
    simp only [elemIB, lineIB] at h
    split at h
    · cases h
    · exact lineIBcore_overlaps h
  | multiline ls =>
    simp only [elemIB, multilineIB] at h
    split at h
    · cases h
    · obtain ⟨l, hl, hc⟩ := List.any_eq_true.mp h
      obtain ⟨bb, hbb, ho⟩ := lineIBcore_overlaps hc
      obtain ⟨BB, hBB, hs⟩ := bboxOf_sub_flatten hl hbb
      exact ⟨BB, hBB, not_outside_of_sub hs ho⟩
  | polygon rs => exact polygonIBcore_overlaps h
  | multipolygon ps =>
    obtain ⟨rs, hrs, hc⟩ := List.any_eq_true.mp h
    obtain ⟨bb, hbb, ho⟩ := polygonIBcore_overlaps hc
    obtain ⟨BB, hBB, hs⟩ := bboxOf_sub_flatten (List.mem_map_of_mem (f := List.flatten) hrs) hbb
    exact ⟨BB, by simpa [elemVerts, List.flatten_flatten] using hBB, not_outside_of_sub hs ho⟩

/-- the projection shortcut of the kernels: this is why rows the index reports as covered need no exact test -/
theorem elemIB_of_inside {bx : Box} {e : Elem} {bb : Box} (hbb : bboxOf (elemVerts e) = some bb)
    (hpos : zeroAreaBox (orientBox bx) = false) (hs : BoxSub bb (orientBox bx)) : elemIB bx (some e) = true := by
  -- every vertex lies in the box, and there is one; in a collection, some part has a vertex
  have hne := ne_nil_of_bboxOf hbb
  have hin := (bboxOf_sub_iff hbb _).mp hs
  cases e with
  | point p => exact inBox_iff.mpr (hin p List.mem_cons_self)
  | multipoint ps =>
    obtain ⟨p, hp⟩ := List.exists_mem_of_ne_nil ps hne
    exact List.any_eq_true.mpr ⟨p, hp, inBox_iff.mpr (hin p hp)⟩
  | line l =>
    simp only [elemIB, lineIB, hpos]
    exact lineIBcore_of_inside hne hin
  | multiline ls =>
    obtain ⟨l, hl, hne⟩ := List.flatten_ne_nil_iff.mp hne
    simp only [elemIB, multilineIB, hpos, Bool.false_eq_true, if_false, List.any_eq_true]
    exact ⟨l, hl, lineIBcore_of_inside hne (List.forall_mem_flatten.mp hin l hl)⟩
  | polygon rs => exact polygonIBcore_of_inside hne hin
  | multipolygon ps =>
    rw [elemVerts, List.flatten_flatten] at hne hin
    obtain ⟨l, hl, hne⟩ := List.flatten_ne_nil_iff.mp hne
    obtain ⟨rs, hrs, rfl⟩ := List.mem_map.mp hl
    exact List.any_eq_true.mpr ⟨rs, hrs, polygonIBcore_of_inside hne (List.forall_mem_flatten.mp hin _ hl)⟩

end SpVerif.Frames
