import SpVerif.Lemmas.HilbertRefine
/-! C07: for n = 2 the list model (`coordN`, `distN`, as the code is written for every n) is the pair model (`coord2`, `dist2`),
stage by stage.  The pair model inherits its ranges and refinement from the all-n results, and `C07_roundtrip_cd/dc` go through
`coordN_two` / `distN_two` to `distN_coordN` / `coordN_distN`; the round trips of the single stages at the end of this file are
facts of the pair model that nothing else uses. -/
namespace SpVerif.Hilbert

def Bdd (p : Nat) (x : W2) : Prop := x.1 < 2 ^ p ∧ x.2 < 2 ^ p

def L2 (x : W2) : List Nat := [x.1, x.2]

theorem step_one (q : Nat) (x : W2) : step q 1 (L2 x) = L2 (stepA q x) := by
  rw [L2, step_cons_succ, stepA, apply_ite L2]
  rfl

theorem step_zero (q : Nat) (x : W2) : step q 0 (L2 x) = L2 (stepB q x) := by
  rw [L2, step_cons_zero, stepB]
  split <;> rfl

theorem undoLoopN_two (p : Nat) (x : W2) : undoLoopN 2 p (L2 x) = L2 (undoLoop2 p x) := by
  induction p, x using undoLoop2.induct with
  | case1 x => rfl
  | case2 x => rfl
  | case3 p x ih =>
    rw [undoLoopN, ih, undoLoop2, ← step_zero, ← step_one]
    rfl

theorem redoLoopN_two (p : Nat) (x : W2) : redoLoopN 2 p (L2 x) = L2 (redoLoop2 p x) := by
  induction p, x using redoLoop2.induct with
  | case1 x => rfl
  | case2 x => rfl
  | case3 p x ih =>
    rw [redoLoop2, ← ih, ← step_one, ← step_zero]
    rfl

theorem grayDecodeN_two (x : W2) : grayDecodeN (L2 x) = L2 (grayDecode2 x) := by
  simp [grayDecodeN_eq, adjXor, grayDecode2, L2]

theorem transposeWord_two (p h : Nat) :
    transposeWord p 2 0 h = (transpose2 p h).1 ∧ transposeWord p 2 1 h = (transpose2 p h).2 := by
  induction p generalizing h with
  | zero => exact ⟨rfl, rfl⟩
  | succ p ih =>
    rw [transposeWord_succ, transposeWord_succ, show h >>> 2 = h / 4 from Nat.shiftRight_eq_div_pow h 2, (ih _).1, (ih _).2,
      transpose2, show 2 - 1 - 0 = 0 + 1 from rfl, Nat.testBit_succ, ite_testBit_zero, ite_testBit_zero]
    exact ⟨rfl, rfl⟩

theorem toTranspose_two (p h : Nat) : toTranspose p 2 h = L2 (transpose2 p h) := by
  rw [L2, ← (transposeWord_two p h).1, ← (transposeWord_two p h).2]
  rfl

theorem testBit_transpose2 (p h j : Nat) :
    (transpose2 p h).1.testBit j = (decide (j < p) && h.testBit (2 * j + 1)) ∧
    (transpose2 p h).2.testBit j = (decide (j < p) && h.testBit (2 * j)) := by
  rw [← (transposeWord_two p h).1, ← (transposeWord_two p h).2]
  simp [testBit_transposeWord]

theorem coordN_two (p h : Nat) : coordN p 2 h = L2 (coord2 p h) := by
  unfold coordN coord2
  rw [toTranspose_two, grayDecodeN_two, undoLoopN_two]

theorem grayEncodeN_two (p : Nat) (x : W2) : grayEncodeN p (L2 x) = L2 (grayEncode2 p x) := by
  simp [grayEncodeN, grayEncode2, L2, prefixXor]

theorem fromTranspose_two (p : Nat) (x : W2) : fromTranspose p (L2 x) = untranspose2 p x := by
  induction p generalizing x with
  | zero => rfl
  | succ p ih =>
    rw [untranspose2, ← ih, show L2 (x.1 / 2, x.2 / 2) = shr (L2 x) from rfl]
    -- peel two bits off the low end of the `bitsum`; its bit `e + 2` is bit `e / 2 + 1` of a word, that is bit `e / 2` of the halved word
    simp only [fromTranspose, length_shr, show (L2 x).length = 2 from rfl, Nat.mul_succ, bitsum_succ_low, getD_shr,
      Nat.testBit_shiftRight, Nat.add_assoc, Nat.reduceAdd, Nat.add_mod_right, Nat.add_div_right _ Nat.two_pos, Nat.add_comm 1]
    show 2 * (2 * _ + if x.1.testBit 0 then 1 else 0) + (if x.2.testBit 0 then 1 else 0) = _
    rw [ite_testBit_zero, ite_testBit_zero, Nat.mul_add, ← Nat.mul_assoc, Nat.add_assoc]

theorem testBit_untranspose2 (p : Nat) (x : W2) (e : Nat) :
    (untranspose2 p x).testBit e
      = (decide (e < 2 * p) && (if e % 2 = 0 then x.2 else x.1).testBit (e / 2)) := by
  rw [← fromTranspose_two, testBit_fromTranspose]
  rcases Nat.mod_two_eq_zero_or_one e with h | h <;> simp [h, L2]

theorem distN_two (p : Nat) (c : W2) : distN p (L2 c) = dist2 p c := by
  unfold distN dist2
  rw [show (L2 c).length = 2 from rfl, redoLoopN_two, grayEncodeN_two, fromTranspose_two]

theorem L2_inj {x y : W2} (h : L2 x = L2 y) : x = y :=
  congrArg (fun X : List Nat => (X.getD 0 0, X.getD 1 0)) h

theorem allLt_L2 {p : Nat} {x : W2} : AllLt p (L2 x) ↔ Bdd p x := by
  simp [AllLt, L2, Bdd]

theorem four_pow_eq (p : Nat) : 4 ^ p = 2 ^ (2 * p) := (Nat.pow_mul 2 2 p).symm

theorem transpose2_bdd (p h : Nat) : Bdd p (transpose2 p h) :=
  allLt_L2.1 (toTranspose_two p h ▸ toTranspose_allLt p 2 h)

theorem coord2_bdd (p h : Nat) : Bdd p (coord2 p h) :=
  allLt_L2.1 (coordN_two p h ▸ (coordN_range p 2 h).2)

theorem coord2_refine (p h : Nat) : ((coord2 (p+1) h).1 / 2, (coord2 (p+1) h).2 / 2) = coord2 p (h / 4) :=
  L2_inj (by rw [← coordN_two, ← Nat.shiftRight_eq_div_pow h 2, ← coordN_refine, coordN_two]; rfl)

theorem dist2_lt (p : Nat) (c : W2) : dist2 p c < 4 ^ p := by
  rw [← distN_two, four_pow_eq]
  exact distN_lt p (L2 c)

theorem stepA_invol (q : Nat) (x : W2) : stepA q (stepA q x) = x :=
  L2_inj (by rw [← step_one, ← step_one]; exact step_invol q 1 _ Nat.one_lt_two)

theorem stepB_invol (q : Nat) (x : W2) : stepB q (stepB q x) = x :=
  L2_inj (by rw [← step_zero, ← step_zero]; exact step_invol q 0 _ Nat.two_pos)

theorem redo_undo (p : Nat) (x : W2) : redoLoop2 p (undoLoop2 p x) = x :=
  L2_inj (by rw [← redoLoopN_two, ← undoLoopN_two]; exact ((loops_length 2 p).1 _ rfl).2)

theorem undo_redo (p : Nat) (x : W2) : undoLoop2 p (redoLoop2 p x) = x :=
  L2_inj (by rw [← undoLoopN_two, ← redoLoopN_two]; exact ((loops_length 2 p).2 _ rfl).2)

theorem grayEncode2_decode (p : Nat) (x : W2) (h : x.2 < 2 ^ p) : grayEncode2 p (grayDecode2 x) = x :=
  L2_inj (by rw [← grayEncodeN_two, ← grayDecodeN_two]; exact grayEncodeN_decodeN p _ Nat.two_pos h)

theorem grayDecode2_encode (p : Nat) (x : W2) (h : Bdd p x) : grayDecode2 (grayEncode2 p x) = x :=
  L2_inj (by rw [← grayDecodeN_two, ← grayEncodeN_two]; exact grayDecodeN_encodeN p _ Nat.two_pos (allLt_L2.2 h))

theorem untranspose2_transpose2 (p h : Nat) (hh : h < 4 ^ p) : untranspose2 p (transpose2 p h) = h := by
  rw [← fromTranspose_two, ← toTranspose_two]
  exact fromTranspose_toTranspose p 2 h Nat.two_pos (four_pow_eq p ▸ hh)

theorem transpose2_untranspose2 (p : Nat) (x : W2) (hx : Bdd p x) : transpose2 p (untranspose2 p x) = x :=
  L2_inj (by rw [← toTranspose_two, ← fromTranspose_two]
             exact toTranspose_fromTranspose p (L2 x) Nat.two_pos (allLt_L2.2 hx))

end SpVerif.Hilbert
