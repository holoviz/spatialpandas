import SpVerif.Model.Hilbert
/-! Bit-level facts shared by the Hilbert-curve proofs: xor algebra, the masks `2^q - 1`, words without low bits (`HighMask`),
the mask that `tLoop` accumulates, `bitsum`. -/
namespace SpVerif.Hilbert

theorem xor_xor_cancel (a b : Nat) : a ^^^ b ^^^ b = a := by
  rw [Nat.xor_assoc, Nat.xor_self, Nat.xor_zero]

theorem xor_cancel_left (a b : Nat) : a ^^^ (a ^^^ b) = b := by
  rw [← Nat.xor_assoc, Nat.xor_self, Nat.zero_xor]

theorem xor_xor_xor_cancel (a b t : Nat) : (a ^^^ t) ^^^ (b ^^^ t) = a ^^^ b := by
  rw [Nat.xor_comm b t, Nat.xor_assoc, xor_cancel_left]

theorem testBit_xor_mask (a q : Nat) : (a ^^^ (2 ^ q - 1)).testBit q = a.testBit q := by
  simp [Nat.testBit_xor, Nat.testBit_two_pow_sub_one]

theorem testBit_xor_masked (a b q : Nat) : (a ^^^ (b &&& (2 ^ q - 1))).testBit q = a.testBit q := by
  simp [Nat.testBit_xor]

theorem mask_lt {q p : Nat} (h : q ≤ p) : 2 ^ q - 1 < 2 ^ p := by
  have := Nat.pow_le_pow_right (show 2 > 0 by omega) h
  have := Nat.two_pow_pos q
  omega

theorem testBit_ge_of_lt {b p k : Nat} (h : b < 2 ^ p) (hk : p ≤ k) : b.testBit k = false :=
  Nat.testBit_lt_two_pow (Nat.lt_of_lt_of_le h (Nat.pow_le_pow_right (by omega) hk))

theorem tLoop_xor (q t y : Nat) : tLoop q t y = t ^^^ tLoop q 0 y := by
  induction q generalizing t with
  | zero => simp [tLoop]
  | succ q ih =>
    rw [tLoop, ih, tLoop, ih (ite _ _ _)]
    split <;> simp [Nat.xor_assoc]

/-- bit `j` of the mask that `tLoop` accumulates is the xor of the bits `j + 1 … q` of `y`, said by recursion on `j` -/
theorem testBit_tLoop (q y j : Nat) :
    (tLoop q 0 y).testBit j = (decide (j < q) && (y.testBit (j + 1) ^^ (tLoop q 0 y).testBit (j + 1))) := by
  induction q generalizing j with
  | zero => simp [tLoop]
  | succ q ih =>
    -- one more round xors the mask `2 ^ (q + 1) - 1` in if bit `q + 1` of `y` is set: that flips every bit `k ≤ q`
    have hm : ∀ k, (if y.testBit (q + 1) then 0 ^^^ (2 ^ (q + 1) - 1) else 0).testBit k
        = (decide (k < q + 1) && y.testBit (q + 1)) := by
      intro k; split <;> simp [*]
    rw [tLoop, tLoop_xor, Nat.testBit_xor, Nat.testBit_xor, hm, hm, ih j]
    rcases Nat.lt_trichotomy j q with h | rfl | h
    · simp [h, Nat.lt_succ_of_lt h, Bool.xor_left_comm]
    · rw [ih (j + 1)]; simp [Nat.not_succ_lt_self]
    · simp [show ¬ j < q + 1 by omega, show ¬ j < q by omega]

theorem tLoop_lt (q y : Nat) : tLoop q 0 y < 2 ^ q :=
  Nat.lt_pow_two_of_testBit _ fun j hj => by rw [testBit_tLoop, decide_eq_false (Nat.not_lt.2 hj), Bool.false_and]

/-- the mask `t` that the encoder's `tLoop` accumulates from `y` solves the carry equation of the Gray code, `(y ^^^ t) >>> 1 = t`;
the equation has one solution only (`carry_unique`), and both Gray round trips rest on these two facts -/
theorem tLoop_fix (p y : Nat) (hy : y < 2 ^ p) : (y ^^^ tLoop (p - 1) 0 y) >>> 1 = tLoop (p - 1) 0 y := by
  apply Nat.eq_of_testBit_eq; intro j
  rw [Nat.testBit_shiftRight, Nat.testBit_xor, Nat.add_comm, testBit_tLoop (p - 1) y j]
  by_cases hj : j < p - 1
  · simp [hj]
  · rw [testBit_ge_of_lt hy (by omega), testBit_ge_of_lt (tLoop_lt _ _) (by omega)]; simp

theorem carry_unique {y s t : Nat} (hs : (y ^^^ s) >>> 1 = s) (ht : (y ^^^ t) >>> 1 = t) : s = t := by
  -- the difference of two solutions is its own half
  have h : (s ^^^ t) >>> 1 = s ^^^ t := by
    conv => rhs; rw [← hs, ← ht]
    rw [← Nat.shiftRight_xor_distrib, Nat.xor_comm y, Nat.xor_comm y, xor_xor_xor_cancel]
  have h0 : s ^^^ t = 0 := by rw [Nat.shiftRight_eq_div_pow] at h; omega
  rw [← xor_xor_cancel s t, h0, Nat.zero_xor]

theorem tLoop_gray (p b : Nat) (h : b < 2 ^ p) : tLoop (p - 1) 0 (b ^^^ (b >>> 1)) = b >>> 1 :=
  carry_unique (tLoop_fix p _ (Nat.xor_lt_two_pow h (Nat.lt_of_le_of_lt (Nat.shiftRight_le _ _) h)))
    (by rw [xor_xor_cancel])

def HighMask (p m : Nat) : Prop := ∀ i, i < p → m.testBit i = false

theorem highMask_zero (p : Nat) : HighMask p 0 := fun _ _ => Nat.zero_testBit _
theorem highMask_two_pow (p : Nat) : HighMask p (2 ^ p) := by
  intro i hi; rw [Nat.testBit_two_pow]; simp; omega
theorem highMask_mono {p q m : Nat} (h : HighMask p m) (hq : q ≤ p) : HighMask q m :=
  fun i hi => h i (by omega)
theorem highMask_xor {p m n : Nat} (h1 : HighMask p m) (h2 : HighMask p n) : HighMask p (m ^^^ n) := by
  intro i hi; rw [Nat.testBit_xor, h1 i hi, h2 i hi]; rfl

theorem and_mask_high {q m : Nat} (hm : HighMask q m) : m &&& (2 ^ q - 1) = 0 := by
  apply Nat.eq_of_testBit_eq; intro i
  rw [Nat.testBit_and, Nat.testBit_two_pow_sub_one, Nat.zero_testBit]
  by_cases hi : i < q
  · simp [hm i hi]
  · simp [hi]

theorem highMask_mul (p c : Nat) : HighMask p (2 ^ p * c) := by
  intro i hi; rw [Nat.testBit_two_pow_mul]
  have : ¬ i ≥ p := by omega
  simp [this]

theorem add_eq_xor {p x : Nat} (hx : x < 2 ^ p) (c : Nat) : 2 ^ p * c + x = x ^^^ (2 ^ p * c) := by
  apply Nat.eq_of_testBit_eq; intro i
  rw [Nat.testBit_two_pow_mul_add _ hx, Nat.testBit_xor, Nat.testBit_two_pow_mul]
  by_cases hi : i < p
  · have : ¬ i ≥ p := by omega
    simp [hi, this]
  · have h2 : i ≥ p := by omega
    simp [hi, h2, testBit_ge_of_lt hx h2]

theorem shiftRight_two_pow_mul (p c : Nat) : (2 ^ (p+1) * c) >>> 1 = 2 ^ p * c := by
  rw [Nat.shiftRight_eq_div_pow, Nat.pow_succ]
  have : 2 ^ p * 2 * c = 2 * (2 ^ p * c) := by rw [Nat.mul_assoc, Nat.mul_left_comm]
  rw [this]; omega

theorem compl_eq_xor {q x : Nat} (h : x < 2 ^ q) : 2 ^ q - 1 - x = x ^^^ (2 ^ q - 1) := by
  apply Nat.eq_of_testBit_eq; intro i
  rw [show 2 ^ q - 1 - x = 2 ^ q - (x + 1) by omega, Nat.testBit_two_pow_sub_succ h,
    Nat.testBit_xor, Nat.testBit_two_pow_sub_one]
  by_cases hi : i < q
  · simp [hi]
  · simp [hi, testBit_ge_of_lt h (by omega : q ≤ i)]

theorem two_pow_add {q x : Nat} (h : x < 2 ^ q) : 2 ^ q + x = x ^^^ 2 ^ q := by
  have := add_eq_xor h 1
  simpa using this

theorem two_pow_xor_mask (q : Nat) : 2 ^ q ^^^ (2 ^ q - 1) = 2 ^ (q+1) - 1 := by
  have := Nat.two_pow_pos q
  rw [Nat.xor_comm, ← two_pow_add (mask_lt (Nat.le_refl q)), Nat.pow_succ]
  omega

theorem testBit_top_flip {q x : Nat} (h : x < 2 ^ q) : (x ^^^ 2 ^ q).testBit q = true := by
  rw [Nat.testBit_xor, Nat.testBit_lt_two_pow h, Nat.testBit_two_pow_self]; rfl

theorem mask_shr (q : Nat) : (2 ^ (q + 1) - 1) >>> 1 = 2 ^ q - 1 := by
  rw [Nat.shiftRight_eq_div_pow, Nat.pow_succ]; omega

theorem ones_xor_shift (p : Nat) (hp : 1 ≤ p) : (2 ^ p - 1) ^^^ ((2 ^ p - 1) >>> 1) = 2 ^ (p - 1) := by
  obtain ⟨k, rfl⟩ : ∃ k, p = k + 1 := ⟨p - 1, by omega⟩
  rw [mask_shr, ← two_pow_xor_mask, xor_xor_cancel, Nat.add_sub_cancel]

theorem bitsum_succ (k : Nat) (f : Nat → Bool) : bitsum (k + 1) f = bitsum k f + (if f k then 2 ^ k else 0) := by
  unfold bitsum
  rw [List.range_succ, List.foldl_append]
  rfl

theorem bitsum_lt (k : Nat) (f : Nat → Bool) : bitsum k f < 2 ^ k := by
  induction k with
  | zero => exact Nat.one_pos
  | succ k ih => rw [bitsum_succ, Nat.pow_succ]; split <;> omega

theorem testBit_bitsum (k : Nat) (f : Nat → Bool) (e : Nat) : (bitsum k f).testBit e = (decide (e < k) && f e) := by
  induction k with
  | zero => simp [bitsum]
  | succ k ih =>
    -- the new summand is bit `k`, which the sum so far does not reach
    have hadd : bitsum (k + 1) f = 2 ^ k * (f k).toNat + bitsum k f := by
      rw [bitsum_succ, Nat.add_comm]; cases f k <;> simp
    rw [hadd, Nat.testBit_two_pow_mul_add _ (bitsum_lt k f), ih]
    by_cases h : e < k
    · simp [h, Nat.lt_succ_of_lt h]
    · rcases Nat.eq_or_lt_of_not_lt h with rfl | h'
      · cases f e <;> simp
      · have : (f k).toNat.testBit (e - k) = false := testBit_ge_of_lt (p := 1) (Bool.toNat_lt _) (by omega)
        simp [h, this, show ¬ e < k + 1 by omega]

theorem ite_testBit_zero (y : Nat) : (if y.testBit 0 then 1 else 0) = y % 2 := by
  rcases Nat.mod_two_eq_zero_or_one y with h | h <;> simp [Nat.testBit_zero, h]

theorem bitsum_succ_low (k : Nat) (f : Nat → Bool) :
    bitsum (k + 1) f = 2 * bitsum k (fun e => f (e + 1)) + (if f 0 then 1 else 0) := by
  induction k with
  | zero => simp [bitsum]
  | succ k ih =>
    rw [bitsum_succ, ih, bitsum_succ k (fun e => f (e + 1)), Nat.pow_succ]
    cases f (k + 1) <;> simp <;> omega

theorem bitsum_false (k : Nat) : bitsum k (fun _ => false) = 0 := by
  unfold bitsum
  induction k with
  | zero => rfl
  | succ k ih => rw [List.range_succ, List.foldl_append, ih]; rfl

end SpVerif.Hilbert
