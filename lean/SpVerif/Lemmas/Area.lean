import SpVerif.Model.Geom
import Mathlib.Tactic.Ring
/-! Sums over the consecutive vertex pairs of a line or ring (`segSum`: the winding numbers and the shoelace area are such sums),
and the coded area loop as the shoelace sum on closed rings (C14 / C15).  Defines `lastPt`, `Closed`, `shoelace`, `translate`. -/
namespace SpVerif.Geom

/-- the textbook shoelace sum over consecutive vertex pairs: `Σ (x_i y_{i+1} - x_{i+1} y_i)` -/
def shoelace : List Pt → Int
  | a :: b :: rest => (a.1 * b.2 - b.1 * a.2) + shoelace (b :: rest)
  | _ => 0

def lastPt : List Pt → Pt
  | [] => (0, 0)
  | [a] => a
  | _ :: b :: rest => lastPt (b :: rest)

def Closed (r : List Pt) : Prop := 3 ≤ r.length ∧ lastPt r = r.getD 0 (0,0)

theorem lastPt_eq : ∀ l : List Pt, lastPt l = l.getLast?.getD (0, 0)
  | [] => rfl
  | [_] => rfl
  | _ :: b :: rest => by rw [lastPt, lastPt_eq (b :: rest), List.getLast?_cons_cons]

theorem lastPt_append_single (l : List Pt) (z : Pt) : lastPt (l ++ [z]) = z := by
  rw [lastPt_eq, List.getLast?_append]; rfl

theorem segs_append (l1 : List Pt) (a : Pt) (l2 : List Pt) : segs (l1 ++ a :: l2) = segs (l1 ++ [a]) ++ segs (a :: l2) := by
  match l1 with
  | [] => rfl
  | [c] => rfl
  | c :: d :: rest => exact congrArg ((c, d) :: ·) (segs_append (d :: rest) a l2)

theorem segs_append_single (l : List Pt) (z : Pt) : l ≠ [] → segs (l ++ [z]) = segs l ++ [(lastPt l, z)] := by
  match l with
  | [] => exact fun h => absurd rfl h
  | [a] => exact fun _ => rfl
  | a :: b :: rest => exact fun _ => congrArg ((a, b) :: ·) (segs_append_single (b :: rest) z (by simp))

theorem segs_reverse : ∀ r : List Pt, segs r.reverse = ((segs r).map Prod.swap).reverse
  | [] => rfl
  | [a] => rfl
  | a :: b :: rest => by
    rw [List.reverse_cons, segs_append_single _ a (by simp), segs_reverse (b :: rest), List.reverse_cons, lastPt_append_single]
    simp [segs]

def segSum (f : Pt → Pt → Int) (r : List Pt) : Int := ((segs r).map fun s => f s.1 s.2).sum

theorem segSum_cons (f : Pt → Pt → Int) (a b : Pt) (rest : List Pt) :
    segSum f (a :: b :: rest) = f a b + segSum f (b :: rest) := rfl

theorem eq_segSum {w : List Pt → Int} {f : Pt → Pt → Int} (h0 : w [] = 0) (h1 : ∀ a, w [a] = 0)
    (h2 : ∀ a b rest, w (a :: b :: rest) = f a b + w (b :: rest)) : ∀ r, w r = segSum f r
  | [] => h0
  | [a] => h1 a
  | a :: b :: rest => by rw [h2, segSum_cons, eq_segSum h0 h1 h2 (b :: rest)]

theorem segSum_congr {f g : Pt → Pt → Int} {r : List Pt} (h : ∀ s ∈ segs r, f s.1 s.2 = g s.1 s.2) : segSum f r = segSum g r :=
  congrArg List.sum (List.map_congr_left h)

theorem segSum_add (f g : Pt → Pt → Int) : ∀ r : List Pt, segSum (fun a b => f a b + g a b) r = segSum f r + segSum g r
  | [] => rfl
  | [_] => rfl
  | a :: b :: rest => by simp only [segSum_cons, segSum_add f g (b :: rest)]; omega

theorem segSum_mul (f : Pt → Pt → Int) (c : Int) : ∀ r : List Pt, segSum (fun a b => f a b * c) r = segSum f r * c
  | [] => (zero_mul c).symm
  | [_] => (zero_mul c).symm
  | a :: b :: rest => by rw [segSum_cons, segSum_cons, segSum_mul f c (b :: rest), add_mul]

theorem segSum_append (f : Pt → Pt → Int) (l1 : List Pt) (a : Pt) (l2 : List Pt) :
    segSum f (l1 ++ a :: l2) = segSum f (l1 ++ [a]) + segSum f (a :: l2) := by
  simp only [segSum, segs_append l1 a l2, List.map_append, List.sum_append]

theorem segSum_append_single (f : Pt → Pt → Int) (l : List Pt) (z : Pt) (h : l ≠ []) :
    segSum f (l ++ [z]) = segSum f l + f (lastPt l) z := by
  simp [segSum, segs_append_single l z h]

theorem segSum_reverse {f : Pt → Pt → Int} (hf : ∀ a b, f b a = - f a b) : ∀ r : List Pt, segSum f r.reverse = - segSum f r
  | [] => rfl
  | [_] => rfl
  | a :: b :: rest => by
    rw [List.reverse_cons, segSum_append_single f _ a (by simp), segSum_reverse hf (b :: rest), List.reverse_cons,
      lastPt_append_single, hf a b, segSum_cons]
    omega

theorem segSum_telescope (g : Pt → Int) : ∀ r : List Pt, segSum (fun a b => g b - g a) r = g (lastPt r) - g (r.getD 0 (0, 0))
  | [] => by simp [segSum, segs, lastPt]
  | [a] => by simp [segSum, segs, lastPt]
  | a :: b :: rest => by
    have := segSum_telescope g (b :: rest)
    simp only [segSum_cons, lastPt, List.getD_cons_zero] at this ⊢
    omega

theorem segSum_closed (g : Pt → Int) {r : List Pt} (h : Closed r) : segSum (fun a b => g b - g a) r = 0 := by
  rw [segSum_telescope, h.2, sub_self]

theorem shoelace_eq (r : List Pt) : shoelace r = segSum (fun a b => a.1 * b.2 - b.1 * a.2) r :=
  eq_segSum rfl (fun _ => rfl) (fun _ _ _ => rfl) r

theorem shoelace_eq_midSum : ∀ l : List Pt, 2 ≤ l.length →
    shoelace l = midSum l + (l.getD 0 (0,0)).1 * (l.getD 1 (0,0)).2 - (lastPt l).1 * (l.getD (l.length - 2) (0,0)).2
  | [a, b], _ => by simp [shoelace, midSum, lastPt]
  | a :: b :: c :: rest, _ => by
    have ih := shoelace_eq_midSum (b :: c :: rest) (by simp)
    have e : rest.length + 1 + 1 + 1 - 2 = (rest.length + 1 + 1 - 2) + 1 := by omega
    simp only [shoelace, midSum, lastPt, List.length_cons, e, List.getD_cons_zero, List.getD_cons_succ] at ih ⊢
    rw [ih]
    ring

theorem getD_last (l : List Pt) (h : 1 ≤ l.length) : l.getD (l.length - 1) (0,0) = lastPt l := by
  rw [lastPt_eq, List.getLast?_eq_getElem?, List.getD_eq_getElem?_getD]

theorem ringArea2_eq_shoelace {r : List Pt} (h : Closed r) : ringArea2 r = shoelace r := by
  rw [shoelace_eq_midSum r (Nat.le_of_succ_le h.1), h.2, ringArea2, if_neg (not_lt.2 h.1)]
  ring

def translate (d : Pt) (l : List Pt) : List Pt := l.map (fun p => (p.1 + d.1, p.2 + d.2))

theorem lastPt_translate (d : Pt) (l : List Pt) (h : 1 ≤ l.length) :
    lastPt (translate d l) = ((lastPt l).1 + d.1, (lastPt l).2 + d.2) := by
  obtain ⟨a, ha⟩ : ∃ a, l.getLast? = some a :=
    Option.ne_none_iff_exists'.mp (by simpa [List.getLast?_eq_none_iff] using List.ne_nil_of_length_pos h)
  rw [lastPt_eq, lastPt_eq, translate, List.getLast?_map, ha]; rfl

theorem shoelace_translate (d : Pt) (l : List Pt) :
    shoelace (translate d l) = shoelace l + d.1 * ((lastPt l).2 - (l.getD 0 (0,0)).2) - d.2 * ((lastPt l).1 - (l.getD 0 (0,0)).1) := by
  match l with
  | [] => simp [translate, shoelace, lastPt]
  | [a] => simp [translate, shoelace, lastPt]
  | a :: b :: rest =>
    have ih := shoelace_translate d (b :: rest)
    simp only [translate, List.map_cons, shoelace, lastPt, List.getD_cons_zero] at ih ⊢
    rw [ih]
    ring

theorem closed_translate (d : Pt) {r : List Pt} (h : Closed r) : Closed (translate d r) := by
  obtain ⟨hl, hc⟩ := h
  refine ⟨by simpa [translate] using hl, ?_⟩
  rw [lastPt_translate d r (by omega), hc]
  match r, hl with
  | a :: _, _ => simp [translate]

theorem shoelace_reverse (l : List Pt) : shoelace l.reverse = - shoelace l := by
  rw [shoelace_eq, shoelace_eq, segSum_reverse fun a b => by ring]

theorem getD_zero_reverse (l : List Pt) : l.reverse.getD 0 (0,0) = lastPt l := by
  rw [lastPt_eq, List.getD_eq_getElem?_getD, ← List.head?_eq_getElem?, List.head?_reverse]

theorem lastPt_reverse (l : List Pt) : lastPt l.reverse = l.getD 0 (0,0) := by
  rw [lastPt_eq, List.getLast?_reverse, List.getD_eq_getElem?_getD, List.head?_eq_getElem?]

theorem closed_reverse {r : List Pt} (h : Closed r) : Closed r.reverse :=
  ⟨by simpa using h.1, by rw [lastPt_reverse, getD_zero_reverse, h.2]⟩

theorem ringArea2_reverse {r : List Pt} (h : r.length < 3 ∨ Closed r) : ringArea2 r.reverse = - ringArea2 r := by
  rcases h with h | h
  · simp [ringArea2, h]
  · rw [ringArea2_eq_shoelace (closed_reverse h), ringArea2_eq_shoelace h, shoelace_reverse]

end SpVerif.Geom
