import SpVerif.Lemmas.UnionFold
/-! The R-tree queries.  The traversal invariant is `query_filter`: `query` prunes only rows outside the query and reports as covered
only rows inside it, so a test that `outside` refutes and `inside` decides is answered from the covered and the maybe rows; what
`intersects`, `covers_overlaps` and `.cx` (`coversOverlaps_test`) return is read off it.  It rests on `box_spec` (the stored node box
bounds every row below the node) and the monotonicity of the node tests in the box. -/
namespace SpVerif.RTree

/-- well formed, as the bounding box of a geometry is -/
def WF (d : Nat) (r : NBox) : Prop := ∀ k, k < d → lo r k ≤ hi d r k

theorem outside_iff (d : Nat) (q b : NBox) :
    outside d q b = true ↔ ∃ k, k < d ∧ (hi d q k < lo b k ∨ lo q k > hi d b k) := by
  unfold outside
  simp only [List.any_eq_true, List.mem_range, Bool.or_eq_true, decide_eq_true_eq]

theorem inside_iff (d : Nat) (q b : NBox) : inside d q b = true ↔ Sub d b q := by
  unfold inside Sub
  simp only [List.all_eq_true, List.mem_range, Bool.not_eq_true', Bool.or_eq_false_iff, decide_eq_false_iff_not]
  constructor
  · intro h k hk; have := h k hk; omega
  · intro h k hk; have := h k hk; omega

theorem outside_symm (d : Nat) (q b : NBox) : outside d q b = outside d b q := by
  rw [Bool.eq_iff_iff, outside_iff, outside_iff]
  constructor <;> (rintro ⟨k, hk, h⟩; exact ⟨k, hk, by omega⟩)

theorem outside_mono {d : Nat} {q r b : NBox} (hs : Sub d r b) (h : outside d q b = true) : outside d q r = true := by
  rw [outside_iff] at *
  obtain ⟨k, hk, hc⟩ := h
  have := hs k hk
  exact ⟨k, hk, by omega⟩

theorem not_outside_mono {d : Nat} {q r b : NBox} (hs : Sub d r b) (h : outside d q r = false) : outside d q b = false :=
  Bool.eq_false_iff.mpr fun ho => Bool.false_ne_true (h.symm.trans (outside_mono hs ho))

theorem inside_mono {d : Nat} {q r b : NBox} (hs : Sub d r b) (h : inside d q b = true) : inside d q r = true :=
  (inside_iff d q r).mpr (sub_trans hs ((inside_iff d q b).mp h))

theorem inside_not_outside {d : Nat} {q r : NBox} (hw : WF d r) (h : inside d q r = true) : outside d q r = false := by
  rw [Bool.eq_false_iff]
  intro ho
  rw [outside_iff] at ho
  rw [inside_iff] at h
  obtain ⟨k, hk, hc⟩ := ho
  have := h k hk; have := hw k hk
  omega

theorem box_eq_foldl (d : Nat) (t : PTree) : t.box d = t.rows.foldl (fun a r => unionOpt d a (some r.2)) none := by
  induction t with
  | leaf rs => rfl
  | node l r ihl ihr => rw [PTree.box, PTree.rows, foldl_unionOpt_append, ihl, ihr]

theorem box_spec (d : Nat) (t : PTree) :
    match t.box d with
    | none => t.rows = []
    | some b => ∀ r ∈ t.rows, Sub d r.2 b := by
  rw [box_eq_foldl]
  have key := fun r (hr : r ∈ t.rows) => foldl_unionOpt_contains d (fun r : Row => some r.2) hr rfl
  split
  · next h =>
    refine List.eq_nil_iff_forall_not_mem.mpr fun r hr => ?_
    obtain ⟨B, hB, _⟩ := key r hr
    cases h.symm.trans hB
  · next b h =>
    intro r hr
    obtain ⟨B, hB, hs⟩ := key r hr
    cases h.symm.trans hB
    exact hs

theorem rows_nil_of_box_none {d : Nat} {t : PTree} (h : t.box d = none) : t.rows = [] := by
  have := box_spec d t
  rwa [h] at this

theorem sub_of_box_some {d : Nat} {t : PTree} {b : NBox} (h : t.box d = some b) : ∀ r ∈ t.rows, Sub d r.2 b := by
  have := box_spec d t
  rwa [h] at this

/-- what `query` returns below a node whose box neither prunes nor covers -/
def descend (d : Nat) (q : NBox) : PTree → List Row × List Row
  | .leaf rs => ([], rs)
  | .node l r => ((query d q l).1 ++ (query d q r).1, (query d q l).2 ++ (query d q r).2)

theorem query_eq (d : Nat) (q : NBox) (t : PTree) :
    query d q t = match t.box d with
      | none => ([], [])
      | some b => if outside d q b then ([], []) else if inside d q b then (t.rows, []) else descend d q t := by
  cases t <;> rfl

/-- the traversal invariant: a test `p` on the rows below a node that `outside` refutes and `inside` decides (`c`) is passed by
all (`c = true`) or none of the covered rows and by the maybe rows that pass it.  It needs no well-formedness of the rows -/
theorem query_filter (d : Nat) (q : NBox) (p : Row → Bool) (c : Bool) (t : PTree)
    (h : ∀ x ∈ t.rows, (inside d q x.2 = true → p x = c) ∧ (p x = true → outside d q x.2 = false)) :
    ((bif c then (query d q t).1 else []) ++ (query d q t).2.filter p).Perm (t.rows.filter p) := by
  -- the three tests on the node's own box: no box / pruned / covered settle it outright, else descend
  rw [query_eq]
  split
  · next hb => rw [rows_nil_of_box_none hb]; cases c <;> exact .nil
  · next b hb =>
    have hb := sub_of_box_some hb
    split
    · next ho =>
      rw [show t.rows.filter p = [] from List.filter_eq_nil_iff.mpr fun x hx hp =>
        Bool.false_ne_true (((h x hx).2 hp).symm.trans (outside_mono (hb x hx) ho))]
      cases c <;> exact .nil
    · split
      · next hi =>
        have hp := fun x hx => (h x hx).1 (inside_mono (hb x hx) hi)
        cases c
        · rw [show t.rows.filter p = [] from List.filter_eq_nil_iff.mpr fun x hx => Bool.eq_false_iff.mp (hp x hx)]; exact .nil
        · rw [List.filter_eq_self.mpr hp]; exact .of_eq (List.append_nil _)
      · match t with
        | .leaf rs => cases c <;> exact .rfl
        | .node l r =>
          have hl := query_filter d q p c l fun x hx => h x (List.mem_append_left _ hx)
          have hr := query_filter d q p c r fun x hx => h x (List.mem_append_right _ hx)
          refine .trans ?_ ((hl.append hr).trans (.of_eq (List.filter_append ..).symm))
          -- the lists on either side are the same up to order: count
          have hc : ∀ xs ys : List Row, (bif c then xs ++ ys else []) = (bif c then xs else []) ++ (bif c then ys else []) := by
            cases c <;> simp
          simp only [descend, hc, List.filter_append, List.perm_iff_count, List.count_append]
          intro a; omega

/-- how `.cx` uses the index: an exact test on the keys that lies between `inside` and `not outside`; the covered rows need no
test, the overlapping ones are tested one by one -/
theorem coversOverlaps_test (d : Nat) (t : PTree) (q : NBox) (g : Nat → Bool)
    (hin : ∀ x ∈ t.rows, inside d q x.2 = true → g x.1 = true)
    (hout : ∀ x ∈ t.rows, g x.1 = true → outside d q x.2 = false) :
    ((coversOverlaps d t q).1 ++ (coversOverlaps d t q).2.filter g).Perm ((t.rows.filter (fun r => g r.1)).map (·.1)) := by
  -- the rows inside the query, and the rows that only overlap it and pass the test
  have h₁ := query_filter d q (fun r => inside d q r.2) true t fun x hx => ⟨id, fun hi => hout x hx (hin x hx hi)⟩
  have h₂ := query_filter d q (fun r => g r.1 && !(outside d q r.2 || inside d q r.2)) false t fun x hx =>
    ⟨fun hi => by simp [hi], fun hp => by simp only [Bool.and_eq_true, Bool.not_eq_true', Bool.or_eq_false_iff] at hp; exact hp.2.1⟩
  rw [← List.filter_filter] at h₂
  simp only [coversOverlaps, List.filter_map, ← List.map_append]
  refine ((h₁.append h₂).trans ?_).map _
  -- together these are the rows that pass the test: those inside the query all do, those that pass are not pruned
  refine .trans (.of_eq ?_) (List.filter_append_perm (fun r => inside d q r.2) _)
  rw [List.filter_filter, List.filter_filter]
  congr 1 <;> refine List.filter_congr fun x hx => ?_
  · cases hi : inside d q x.2
    · rfl
    · rw [hin x hx hi]; rfl
  · show (g x.1 && !(outside d q x.2 || inside d q x.2)) = (!inside d q x.2 && g x.1)
    cases hg : g x.1
    · simp
    · rw [hout x hx hg]; simp

theorem two_pow_succ_mul (k ps : Nat) : 2 ^ (k + 1) * ps = 2 ^ k * ps + 2 ^ k * ps := by
  rw [Nat.pow_succ', Nat.mul_assoc, Nat.two_mul]

theorem build_rows (ps : Nat) (k : Nat) (rs : List Row) : (build ps k rs).rows = rs.take (2 ^ k * ps) := by
  induction k generalizing rs with
  | zero => simp [build, PTree.rows]
  | succ k ih =>
    rw [build, PTree.rows, ih, ih, two_pow_succ_mul, List.take_add, List.take_take, Nat.min_self]

theorem le_two_pow_clog2 (m : Nat) : m ≤ 2 ^ clog2 m := by
  unfold clog2
  split
  · have := Nat.two_pow_pos 0; omega
  · have := @Nat.lt_log2_self (m - 1)
    omega

theorem numPages_mul (n ps : Nat) (hps : 1 ≤ ps) : n ≤ numPages n ps * ps := by
  unfold numPages
  have h1 := Nat.div_add_mod (n + ps - 1) ps
  have h2 := Nat.mod_lt (n + ps - 1) (show 0 < ps by omega)
  rw [Nat.mul_comm] at h1
  omega

theorem buildTree_rows (ps : Nat) (hps : 1 ≤ ps) (sorted : List Row) : (buildTree ps sorted).rows = sorted := by
  unfold buildTree
  rw [build_rows]
  exact List.take_of_length_le (Nat.le_trans (numPages_mul sorted.length ps hps)
    (Nat.mul_le_mul_right ps (le_two_pow_clog2 (numPages sorted.length ps))))

end SpVerif.RTree
