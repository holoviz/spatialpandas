import SpVerif.Lemmas.HilbertLink
import SpVerif.Lemmas.HilbertPoints
/-! C07, n = 2: the word-level algorithm satisfies the classical quadrant recursion (`coord2_succ`), and what follows from it:
the identity with `hilbertRec`, end points, adjacency. -/
namespace SpVerif.Hilbert

/-- how a change of the input bits shows in the state -/
def xor2 (x m : W2) : W2 := (x.1 ^^^ m.1, x.2 ^^^ m.2)

/-- also for `p = 0`, where both steps have the empty mask -/
theorem undoLoop2_succ (p : Nat) (x : W2) : undoLoop2 (p+1) x = stepB p (stepA p (undoLoop2 p x)) := by
  cases p with
  | zero => simp [undoLoop2, stepA, stepB]
  | succ p => rfl

theorem testBit_xor_high {q m : Nat} (hm : HighMask (q+1) m) (a : Nat) : (a ^^^ m).testBit q = a.testBit q := by
  rw [Nat.testBit_xor, hm q (Nat.lt_succ_self q), Bool.xor_false]

/-- `stepA q` reads bit `q` of word 1 and the bits below `q`, and writes below `q` only (the masks are two arguments, not a pair
`m` with hypotheses on `m.1`, `m.2`, so that the callers' `rw` finds them by plain unification) -/
theorem stepA_high {q m1 m2 : Nat} (h1 : HighMask q m1) (h2 : HighMask (q+1) m2) (x : W2) :
    stepA q (xor2 x (m1, m2)) = xor2 (stepA q x) (m1, m2) := by
  simp only [stepA, xor2, testBit_xor_high h2, Nat.and_xor_distrib_right, and_mask_high h1,
    and_mask_high (highMask_mono h2 (Nat.le_succ q)), Nat.xor_zero]
  split <;> (congr 1 <;> ac_rfl)

theorem stepB_high {q m1 : Nat} (h1 : HighMask (q+1) m1) (m2 : Nat) (x : W2) :
    stepB q (xor2 x (m1, m2)) = xor2 (stepB q x) (m1, m2) := by
  simp only [stepB, xor2, testBit_xor_high h1]
  split
  · congr 1; ac_rfl
  · rfl

theorem undoLoop2_high (k : Nat) {m1 m2 : Nat} (h1 : HighMask k m1) (h2 : HighMask k m2) (x : W2) :
    undoLoop2 k (xor2 x (m1, m2)) = xor2 (undoLoop2 k x) (m1, m2) := by
  induction k with
  | zero => rfl
  | succ k ih =>
    rw [undoLoop2_succ, undoLoop2_succ, ih (highMask_mono h1 (Nat.le_succ k)) (highMask_mono h2 (Nat.le_succ k)),
      stepA_high (highMask_mono h1 (Nat.le_succ k)) h2, stepB_high h1]

theorem stepB_flip (q : Nat) (x : W2) : stepB q (xor2 x (2 ^ q, 0)) = xor2 (stepB q x) (2 ^ (q+1) - 1, 0) := by
  have t : (x.1 ^^^ 2 ^ q).testBit q = !x.1.testBit q := by
    rw [Nat.testBit_xor, Nat.testBit_two_pow_self, Bool.xor_true]
  simp only [stepB, xor2, t, ← two_pow_xor_mask q]
  cases x.1.testBit q <;> simp only [Bool.not_true, Bool.not_false, if_true, Bool.false_eq_true, if_false] <;> congr 1
  · exact Nat.xor_assoc ..
  · rw [Nat.xor_comm (2 ^ q), Nat.xor_assoc, xor_cancel_left]

theorem xor2_zero (x : W2) : xor2 x (0, 0) = x := by simp [xor2]

/-- the shape in which `grayDecode2_xor` hands over its carry: `c` is the top bit of word 1 -/
theorem undoLoop2_flipTop (p : Nat) (x : W2) {c : Nat} (hc : c < 2) :
    undoLoop2 p (xor2 x ((2 ^ p * c) >>> 1, 0)) = xor2 (undoLoop2 p x) ((2 ^ p - 1) * c, 0) := by
  match c, p with
  | 0, _ => simp only [Nat.mul_zero, Nat.zero_shiftRight, xor2_zero]
  | 1, 0 => rfl
  | 1, k + 1 =>
    rw [shiftRight_two_pow_mul, Nat.mul_one, Nat.mul_one, undoLoop2_succ, undoLoop2_succ,
      undoLoop2_high k (highMask_two_pow k) (highMask_zero k), stepA_high (highMask_two_pow k) (highMask_zero (k+1)), stepB_flip]

theorem transpose2_top (p d r : Nat) (hd : d < 4) (hr : r < 4 ^ p) :
    transpose2 (p+1) (d * 4 ^ p + r)
      = (2 ^ p * (d / 2) + (transpose2 p r).1, 2 ^ p * (d % 2) + (transpose2 p r).2) := by
  induction p generalizing r with
  | zero =>
    have : r = 0 := by simpa using hr
    subst this
    simp only [transpose2, Nat.pow_zero]
    ext <;> simp only <;> omega
  | succ p ih =>
    have e : (d * 4 ^ (p+1) + r) / 4 = d * 4 ^ p + r / 4 := by rw [Nat.pow_succ, ← Nat.mul_assoc]; omega
    rw [transpose2, e, ih (r / 4) (by rw [Nat.pow_succ] at hr; omega), transpose2]
    simp only [Nat.pow_succ, ← Nat.mul_assoc, Nat.mul_right_comm _ 2]
    ext <;> simp only <;> omega

/-- the carry `b >>> 1` is kept apart: when `a`, `b` are the top bits of the two words, it alone is not a high bit -/
theorem grayDecode2_xor (x : W2) (a b : Nat) :
    grayDecode2 (x.1 ^^^ a, x.2 ^^^ b) = xor2 (xor2 (grayDecode2 x) (b >>> 1, 0)) (a, a ^^^ b) := by
  simp only [grayDecode2, xor2, Nat.shiftRight_xor_distrib, Nat.xor_zero]
  congr 1 <;> ac_rfl

theorem stepA_swap {q a b : Nat} (ha : a < 2 ^ q) (hb : b < 2 ^ q) : stepA q (a, b) = (b, a) := by
  simp only [stepA, Nat.testBit_lt_two_pow hb, Bool.false_eq_true, if_false,
    Nat.and_two_pow_sub_one_of_lt_two_pow (Nat.xor_lt_two_pow ha hb), xor_cancel_left]
  rw [Nat.xor_comm a b, xor_cancel_left]

/-- the argument of the two steps is the state that the loop below the top bit `q` leaves for the top digit `d` (`coord2_succ`) -/
theorem quad_top {q d : Nat} {w : W2} (hw : Bdd q w) (hd : d < 4) :
    stepB q (stepA q (xor2 (xor2 w ((2 ^ q - 1) * (d % 2), 0)) (2 ^ q * (d / 2), 2 ^ q * (d / 2) ^^^ 2 ^ q * (d % 2))))
      = quad q d w := by
  obtain ⟨u, v⟩ := w
  obtain ⟨hu, hv⟩ := hw
  simp only at hu hv
  have hm : 2 ^ q - 1 < 2 ^ q := mask_lt (Nat.le_refl q)
  have hum := Nat.xor_lt_two_pow hu hm
  have : d = 0 ∨ d = 1 ∨ d = 2 ∨ d = 3 := by omega
  rcases this with rfl | rfl | rfl | rfl <;>
    simp only [Nat.reduceDiv, Nat.reduceMod, Nat.mul_zero, Nat.mul_one, Nat.xor_zero, Nat.zero_xor, Nat.xor_self, xor2, quad]
  · -- `d = 0`: `stepA` exchanges the words, `stepB` does nothing
    rw [stepA_swap hu hv, stepB, if_neg (by simp [Nat.testBit_lt_two_pow hv])]
  · -- `d = 1`: `stepA` takes the complement of word 0 back, `stepB` does nothing
    simp only [stepA, stepB, testBit_top_flip hv, if_true, xor_xor_cancel, Nat.testBit_lt_two_pow hu, Bool.false_eq_true, if_false,
      two_pow_add hv]
  · -- `d = 2`: `stepA` and `stepB` both complement word 0 below the top bit, which cancels
    have t : (u ^^^ 2 ^ q ^^^ (2 ^ q - 1)).testBit q = true := by rw [testBit_xor_mask]; exact testBit_top_flip hu
    simp only [stepA, stepB, testBit_top_flip hv, if_true, t, xor_xor_cancel, two_pow_add hu, two_pow_add hv]
  · -- `d = 3`: `stepA` exchanges the words below the top bit, `stepB` complements the new word 0
    have := stepA_high (highMask_two_pow q) (highMask_zero _) (u ^^^ (2 ^ q - 1), v)
    simp only [xor2, Nat.xor_zero] at this
    rw [this, stepA_swap hum hv]
    simp only [stepB, testBit_top_flip hv, if_true, compl_eq_xor hu, compl_eq_xor hv, two_pow_add (Nat.xor_lt_two_pow hv hm)]
    congr 1; ac_rfl

/-- the quadrant recursion: the top digit `d` of the distance only adds high bits to the transposed words (`transpose2_top`); the
Gray decode passes them on, with one carry (`grayDecode2_xor`); the loop levels below the top pass the high bits through
(`undoLoop2_high`) and turn the carry into a complement (`undoLoop2_flipTop`), so they compute the order-`p` cell of the
remainder `r`; the two steps at the top bit place it in quadrant `d` (`quad_top`) -/
theorem coord2_succ (p d r : Nat) (hd : d < 4) (hr : r < 4 ^ p) :
    coord2 (p+1) (d * 4 ^ p + r) = quad p d (coord2 p r) := by
  have ht := transpose2_bdd p r
  rw [coord2, undoLoop2_succ, transpose2_top p d r hd hr, add_eq_xor ht.1, add_eq_xor ht.2, grayDecode2_xor,
    undoLoop2_high p (highMask_mul p _) (highMask_xor (highMask_mul p _) (highMask_mul p _)), undoLoop2_flipTop p _ (Nat.mod_lt d Nat.two_pos)]
  exact quad_top (coord2_bdd p r) hd

def Nbr (a b : W2) : Prop :=
  (a.1 = b.1 ∧ (a.2 + 1 = b.2 ∨ b.2 + 1 = a.2)) ∨ (a.2 = b.2 ∧ (a.1 + 1 = b.1 ∨ b.1 + 1 = a.1))

theorem four_pow_pos (p : Nat) : 0 < 4 ^ p := Nat.pow_pos (by omega)

theorem coord2_zero_order (h : Nat) : coord2 0 h = (0, 0) := by
  simp [coord2, undoLoop2, transpose2, grayDecode2]

theorem div_lt_four {p h : Nat} (hh : h < 4 ^ (p+1)) : h / 4 ^ p < 4 := by
  rw [Nat.div_lt_iff_lt_mul (four_pow_pos p)]
  rw [Nat.pow_succ'] at hh; omega

theorem top_digit {p h : Nat} (hh : h < 4 ^ (p+1)) : ∃ d r, d < 4 ∧ r < 4 ^ p ∧ h = d * 4 ^ p + r :=
  ⟨_, _, div_lt_four hh, Nat.mod_lt h (four_pow_pos p), (Nat.div_add_mod' h _).symm⟩

theorem coord2_rec (p h : Nat) (hh : h < 4 ^ (p+1)) : coord2 (p+1) h = quad p (h / 4 ^ p) (coord2 p (h % 4 ^ p)) := by
  have := coord2_succ p _ _ (div_lt_four hh) (Nat.mod_lt h (four_pow_pos p))
  rwa [Nat.div_add_mod'] at this

theorem coord2_eq_rec (p h : Nat) (hh : h < 4 ^ p) : coord2 p h = hilbertRec p h := by
  induction p generalizing h with
  | zero => simp [coord2_zero_order, hilbertRec]
  | succ p ih => rw [coord2_rec p h hh, ih _ (Nat.mod_lt _ (four_pow_pos p)), hilbertRec]

theorem quad_nbr {p d : Nat} {a b : W2} (ha : Bdd p a) (hb : Bdd p b) (h : Nbr a b) :
    Nbr (quad p d a) (quad p d b) := by
  unfold Nbr Bdd at *
  -- which coordinate moves is known from `h`: quadrants 1 and 2 keep the axes, 0 and 3 exchange them
  match d with
  | 0 => exact h.symm
  | 1 | 2 =>
    simp only [quad]
    exact h.imp (by omega) (by omega)
  | (n+3) =>
    simp only [quad]
    exact h.symm.imp (by omega) (by omega)

theorem coord2_first (p : Nat) : coord2 p 0 = (0, 0) :=
  L2_inj ((coordN_two p 0).symm.trans (coordN_zero p 2))

theorem coord2_last (p : Nat) : coord2 p (4 ^ p - 1) = (2 ^ p - 1, 0) := by
  match p with
  | 0 => exact coord2_zero_order _
  | p + 1 =>
    apply L2_inj
    rw [← coordN_two, four_pow_eq]
    exact coordN_last (p + 1) 2 (by omega) (by omega)

theorem quad_exit_entry {p d : Nat} (hd : d + 1 < 4) : Nbr (quad p d (2 ^ p - 1, 0)) (quad p (d + 1) (0, 0)) := by
  have := Nat.two_pow_pos p
  have : d = 0 ∨ d = 1 ∨ d = 2 := by omega
  unfold Nbr
  rcases this with h | h | h <;> subst h <;> simp only [quad, true_and] <;> omega

theorem coord2_adjacent (p h : Nat) (hh : h + 1 < 4 ^ p) : Nbr (coord2 p h) (coord2 p (h+1)) := by
  induction p generalizing h with
  | zero => simp at hh
  | succ p ih =>
    obtain ⟨d, r, hd, hr, rfl⟩ := top_digit (Nat.lt_of_succ_lt hh)
    rw [coord2_succ p d r hd hr]
    by_cases hc : r + 1 < 4 ^ p
    · -- `h + 1` lies in the same quadrant
      rw [Nat.add_assoc, coord2_succ p d _ hd hc]
      exact quad_nbr (coord2_bdd _ _) (coord2_bdd _ _) (ih _ hc)
    · -- `h` is the last cell of its quadrant, `h + 1` the first cell of the next
      have e : d * 4 ^ p + r + 1 = (d + 1) * 4 ^ p + 0 := by rw [Nat.add_mul]; omega
      have hd' : d + 1 < 4 := by
        rw [Nat.pow_succ', e, Nat.add_zero] at hh
        exact Nat.lt_of_mul_lt_mul_right hh
      rw [e, coord2_succ p _ _ hd' (four_pow_pos p), show r = 4 ^ p - 1 by omega, coord2_last, coord2_first]
      exact quad_exit_entry hd'

end SpVerif.Hilbert
