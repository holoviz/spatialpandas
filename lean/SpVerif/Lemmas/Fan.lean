import SpVerif.Lemmas.Triangle
/-! C02: the coded winding number of any ring `v0, v1, …, vk, v0` is the sum over the fan triangles `v0, vi, vi+1, v0`
(`fan_decomposition`): the diagonals cancel because `edgeContrib p · v0` is a potential for them, whatever the half-open edge rule
does with a point on a diagonal.  Off the boundaries of the non-degenerate fan triangles that sum is (# counter-clockwise triangles
strictly containing the point) − (# clockwise ones), the classical signed covering multiplicity, with no appeal to the Jordan curve
theorem (`signed_cover`). -/
namespace SpVerif.Geom

def fanSum (p v0 : Pt) : List Pt → Int
  | a :: b :: rest => windSum p [v0, a, b, v0] + fanSum p v0 (b :: rest)
  | _ => 0

theorem fanSum_eq (p v0 : Pt) (l : List Pt) :
    fanSum p v0 l = segSum (fun a b => edgeContrib p a b + (edgeContrib p b v0 - edgeContrib p a v0)) l := by
  refine eq_segSum rfl (fun _ => rfl) (fun a b rest => ?_) l
  have := edgeContrib_swap p a v0
  simp only [fanSum, windSum]
  omega

theorem fan_decomposition (p v0 : Pt) (l : List Pt) (hl : l ≠ []) :
    windSum p (v0 :: l ++ [v0]) = fanSum p v0 l := by
  obtain ⟨a, rest, rfl⟩ := List.exists_cons_of_ne_nil hl
  have := edgeContrib_swap p a v0
  rw [fanSum_eq, segSum_add, segSum_telescope (edgeContrib p · v0), windSum_eq, List.cons_append, List.cons_append, segSum_cons,
    ← List.cons_append, segSum_append_single _ _ _ hl, List.getD_cons_zero]
  omega

/-- signed cover of `p` by the triangle `a, b, c`: `+1` strictly inside a counter-clockwise one, `-1` strictly inside a clockwise one -/
def triCover (p a b c : Pt) : Int :=
  if 0 < orientI a b p ∧ 0 < orientI b c p ∧ 0 < orientI c a p then 1
  else if orientI a b p < 0 ∧ orientI b c p < 0 ∧ orientI c a p < 0 then -1 else 0

/-- the triangle `a, b, c` is degenerate, or `p` is strictly inside or strictly outside it (not on its boundary) -/
def OffBoundary (p a b c : Pt) : Prop :=
  orientI a b c = 0 ∨
  (0 < orientI a b c ∧ ((0 < orientI a b p ∧ 0 < orientI b c p ∧ 0 < orientI c a p) ∨
                         (orientI a b p < 0 ∨ orientI b c p < 0 ∨ orientI c a p < 0))) ∨
  (orientI a b c < 0 ∧ ((orientI a b p < 0 ∧ orientI b c p < 0 ∧ orientI c a p < 0) ∨
                         (0 < orientI a b p ∨ 0 < orientI b c p ∨ 0 < orientI c a p)))

theorem triangle_cover {p a b c : Pt} (h : OffBoundary p a b c) : windSum p [a, b, c, a] = triCover p a b c := by
  unfold triCover
  split_ifs with h1 h2
  · exact triangle_ccw_inside a b c p h1.1 h1.2.1 h1.2.2
  · exact triangle_cw_inside a b c p h2.1 h2.2.1 h2.2.2
  · -- off the boundary and not strictly inside: strictly outside, or the triangle is degenerate
    unfold OffBoundary at h
    exact triangle_winding_zero a b c p (by omega) (by omega)

def coverSum (p v0 : Pt) : List Pt → Int
  | a :: b :: rest => triCover p v0 a b + coverSum p v0 (b :: rest)
  | _ => 0

def FanGeneral (p v0 : Pt) : List Pt → Prop
  | a :: b :: rest => OffBoundary p v0 a b ∧ FanGeneral p v0 (b :: rest)
  | _ => True

theorem fanSum_cover (p v0 : Pt) : ∀ l, FanGeneral p v0 l → fanSum p v0 l = coverSum p v0 l
  | [], _ => rfl
  | [_], _ => rfl
  | a :: b :: rest, h => by
    obtain ⟨h1, h2⟩ := h
    simp only [fanSum, coverSum]
    rw [triangle_cover h1, fanSum_cover p v0 (b :: rest) h2]

theorem signed_cover (p v0 : Pt) (l : List Pt) (hl : l ≠ []) (hg : FanGeneral p v0 l) :
    windSum p (v0 :: l ++ [v0]) = coverSum p v0 l := by
  rw [fan_decomposition p v0 l hl, fanSum_cover p v0 l hg]

end SpVerif.Geom
