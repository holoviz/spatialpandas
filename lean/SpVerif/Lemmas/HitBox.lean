import SpVerif.Lemmas.PolyBox
import SpVerif.Lemmas.DaskFacts
import SpVerif.Model.DaskJoin
/-! C05 / C06: a point that intersects a shape lies in the shape's bounding box (`hit_in_bbox`), so the candidate filter of `sjoin`
(left rows whose box overlaps the right shape's bounds, from the spatial index) and the partition pruning of the Dask `sjoin`
(right rows whose box overlaps the partition's bounds) never lose a matching pair (`pairsIdx_eq`, `keepOverlap_sound`).
Polygon rings are closed (`WFElem`); for an unclosed ring the coded winding number can be non-zero outside the bounding box. -/
namespace SpVerif.Join
open SpVerif.Geom SpVerif.Frames

def WFElem : Elem → Prop
  | .polygon rs => ∀ r ∈ rs, Closed r
  | .multipolygon ps => ∀ r ∈ ps.flatten, Closed r
  | _ => True

theorem pointLine_bbox {p : Pt} {l : List Pt} (h : pointLine p l = true) : ∃ bb, bboxOf l = some bb ∧ BoxHas bb p := by
  obtain ⟨bb, hbb, hin⟩ := linePoint_bbox ((pointLine_iff p l).mp h)
  exact ⟨bb, hbb, inBoxQ_cast.mp hin⟩

theorem pointInRings_bbox {p : Pt} {rings : List (List Pt)} (hw : ∀ r ∈ rings, Closed r) (h : pointInRings p rings = true) :
    ∃ bb, bboxOf rings.flatten = some bb ∧ BoxHas bb p := by
  obtain ⟨bb, hbb, hin⟩ := polyPoint_bbox hw (Or.inr ((pointInRings_iff p rings).mp h))
  exact ⟨bb, hbb, inBoxQ_cast.mp hin⟩

theorem hit_in_bbox {p : Pt} {e : Elem} (hw : WFElem e) (h : hit (some p) (some e) = true) :
    ∃ bb, bboxOf (elemVerts e) = some bb ∧ BoxHas bb p := by
  cases e with
  | point q =>
    have : p = q := by simpa [hit, pointPoint] using h
    subst this
    exact mem_bbox (l := [p]) (by simp)
  | multipoint qs =>
    have : p ∈ qs := by
      simp only [hit, pointMultiPoint, List.any_eq_true, beq_iff_eq] at h
      obtain ⟨q, hq, rfl⟩ := h
      exact hq
    exact mem_bbox this
  | line l =>
    simp only [hit] at h
    exact pointLine_bbox h
  | multiline ls =>
    simp only [hit, pointMultiLine, List.any_eq_true] at h
    obtain ⟨l, hl, hpl⟩ := h
    obtain ⟨bb, hbb, hin⟩ := pointLine_bbox hpl
    obtain ⟨BB, hBB, hs⟩ := bboxOf_sub_flatten hl hbb
    exact ⟨BB, hBB, boxHas_of_sub hs hin⟩
  | polygon rs => exact pointInRings_bbox hw (by simpa [hit, pointPolygon] using h)
  | multipolygon ps => exact pointInRings_bbox hw (by simpa [hit, pointMultiPolygon] using h)

end SpVerif.Join

namespace SpVerif.DaskJoin
open SpVerif.Geom SpVerif.Frames SpVerif.Join SpVerif.Lists SpVerif.RTree SpVerif.Dask

theorem ptBox_not_outside {p : Pt} {bb : Box} (h : BoxHas bb p) : outside 2 (nbox bb) [p.1, p.2, p.1, p.2] = false := by
  have e : [p.1, p.2, p.1, p.2] = nbox ⟨p.1, p.2, p.1, p.2⟩ := rfl
  rw [e, outside_nbox]
  exact not_outside_of_has (p := p) (by unfold BoxHas; simp) h

theorem hit_cand {right : List (Option Elem)} (hw : ∀ e, some e ∈ right → WFElem e) {lp : Option Pt} {j : Nat}
    (h : hit lp (right.getD j none) = true) :
    ∃ p bb, lp = some p ∧ elemBounds (right.getD j none) = some (Dask.nbox bb) ∧ BoxHas bb p := by
  cases lp with
  | none => cases h
  | some p =>
    cases he : right.getD j none with
    | none => rw [he] at h; cases h
    | some e =>
      obtain ⟨bb, hbb, hin⟩ := hit_in_bbox (hw e (mem_of_getD_eq_some he)) (he ▸ h)
      exact ⟨p, bb, rfl, Dask.elemBounds_eq hbb, hin⟩

theorem pairsIdx_eq (left : List (Option Pt)) (right : List (Option Elem)) (hw : ∀ e, some e ∈ right → WFElem e) :
    pairsIdx left right = pairs left right := by
  unfold pairsIdx pairs
  apply List.flatMap_congr
  intro j _
  cases hb : elemBounds (right.getD j none) with
  | none =>
    refine (List.map_eq_nil_iff.mpr (List.filter_eq_nil_iff.mpr fun i _ hh => ?_)).symm
    obtain ⟨_, _, _, h2, _⟩ := hit_cand hw hh
    rw [hb] at h2; cases h2
  | some bj =>
    -- a hit passes the candidate test (`hit_cand`, `ptBox_not_outside`), so filtering the candidates first changes nothing
    simp only
    congr 1
    unfold cand
    rw [List.filter_filter]
    apply List.filter_congr
    intro i _
    cases hh : hit (left.getD i none) (right.getD j none) with
    | false => simp
    | true =>
      obtain ⟨p, bb, hp, h2, hin⟩ := hit_cand hw hh
      rw [hb] at h2
      have hbj : bj = Dask.nbox bb := by injection h2
      rw [hp, hbj]
      simp only [ptBox, ptBox_not_outside hin, Bool.not_false, Bool.and_self]

theorem ptBox_eq (o : Option Pt) : ptBox o = elemBounds (o.map Elem.point) := by
  cases o with
  | none => rfl
  | some p => simp [ptBox, elemBounds, elemVerts, bboxOf]

theorem partBounds_eq (P : List (Option Pt)) : partBounds P = Dask.totalBounds (P.map (Option.map Elem.point)) := by
  unfold partBounds Dask.totalBounds
  rw [List.foldl_map]
  congr 1
  funext acc p
  rw [ptBox_eq]

theorem keepOverlap_sound (right : List (Option Elem)) (hw : ∀ e, some e ∈ right → WFElem e) (P : List (Option Pt)) (i j : Nat)
    (h : hit (P.getD i none) (right.getD j none) = true) : keepOverlap right P j = true := by
  obtain ⟨p, bb, hp, h2, hin⟩ := hit_cand hw h
  obtain ⟨B, hB, hsub⟩ := RTree.foldl_unionOpt_contains 2 ptBox (mem_of_getD_eq_some hp) (b := [p.1, p.2, p.1, p.2]) rfl
  rw [keepOverlap, partBounds, hB, h2]
  simp only [Bool.not_eq_true', RTree.outside_symm 2 B]
  exact RTree.not_outside_mono hsub (ptBox_not_outside hin)

end SpVerif.DaskJoin
