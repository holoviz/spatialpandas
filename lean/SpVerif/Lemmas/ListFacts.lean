/-! List facts used across the layers: positions of a list (`zip (range n) l`, `zipIdx`), `getD`, prefilters, lists ordered by a key
(`eq_of_perm_of_sorted_key`), fold invariants, folds of an associative operation with a unit (`Fold.foldl_op`, `Fold.foldl_map_flatten`). -/
namespace SpVerif.Lists

variable {α β : Type}

theorem forall_lt_two {P : Nat → Prop} : (∀ k, k < 2 → P k) ↔ P 0 ∧ P 1 := by
  simp [Nat.forall_lt_succ_right]

theorem exists_lt_two {P : Nat → Prop} : (∃ k, k < 2 ∧ P k) ↔ P 0 ∨ P 1 := by
  simp [Nat.exists_lt_succ_right]

theorem mem_of_getD_eq_some {l : List (Option α)} {i : Nat} {x : α} (h : l.getD i none = some x) : some x ∈ l :=
  List.mem_of_getElem? (i := i) (by simpa [Option.getD_eq_iff] using h)

theorem zip_range_eq_map (l : List α) (d : α) :
    (List.range l.length).zip l = (List.range l.length).map (fun i => (i, l.getD i d)) := by
  refine List.ext_getElem (by simp) fun i h _ => ?_
  have hi : i < l.length := by simpa using h
  simp [hi]

theorem zipIdx_eq_map (l : List α) (d : α) : l.zipIdx = (List.range l.length).map (fun i => (l.getD i d, i)) := by
  refine List.ext_getElem (by simp) fun i h _ => ?_
  have hi : i < l.length := by simpa using h
  simp [hi]

theorem map_getD_range (l : List α) (d : α) : (List.range l.length).map (fun i => l.getD i d) = l := by
  have := congrArg (List.map Prod.snd) (zip_range_eq_map l d)
  rw [List.map_snd_zip (by simp), List.map_map] at this
  exact this.symm

theorem filterMap_zip_range' (f : Nat → α → Option β) (d : α) (l : List α) :
    ((List.range l.length).zip l).filterMap (fun (i, x) => f i x) = (List.range l.length).filterMap (fun i => f i (l.getD i d)) := by
  rw [zip_range_eq_map l d, List.filterMap_map]
  rfl

/-- the positions of the elements that pass a test, as `cxMask` / `cxPartitions` compute them -/
theorem filterMap_zip_range (p : α → Bool) (d : α) (l : List α) :
    ((List.range l.length).zip l).filterMap (fun (i, x) => if p x then some i else none) =
      (List.range l.length).filter (fun i => p (l.getD i d)) := by
  rw [filterMap_zip_range' (fun i x => if p x then some i else none) d l, ← List.filterMap_eq_filter]
  rfl

theorem flatMap_filter_of_nil {k : α → Bool} {f : α → List β} {js : List α} (h : ∀ j ∈ js, k j = false → f j = []) :
    (js.filter k).flatMap f = js.flatMap f := by
  induction js with
  | nil => rfl
  | cons j js ih =>
    rw [List.filter_cons, List.flatMap_cons, ← ih fun x hx => h x (List.mem_cons_of_mem _ hx)]
    cases hk : k j with
    | true => rfl
    | false => rw [h j List.mem_cons_self hk]; rfl

theorem flatMap_ite_singleton (c : α → Bool) (g : α → β) (l : List α) :
    l.flatMap (fun a => if c a = true then [g a] else []) = (l.filter c).map g := by
  induction l with
  | nil => rfl
  | cons a l ih =>
    simp only [List.flatMap_cons, ih, List.filter_cons]
    cases c a <;> simp

theorem eq_or_key_ne {κ : Type} {key : α → κ} {l : List α} (h : l.Pairwise (fun a b => key a ≠ key b)) :
    ∀ a ∈ l, ∀ b ∈ l, a = b ∨ key a ≠ key b :=
  List.Pairwise.forall_of_forall_of_flip (fun _ _ => .inl rfl) (h.imp .inr) (h.imp fun h => .inr h.symm)

theorem eq_of_perm_of_sorted_key (key : α → Nat) {l₁ l₂ : List α} (hp : l₁.Perm l₂) (hnd : (l₁.map key).Nodup)
    (h₁ : l₁.Pairwise (fun a b => key a ≤ key b)) (h₂ : l₂.Pairwise (fun a b => key a ≤ key b)) : l₁ = l₂ :=
  hp.eq_of_pairwise (fun a b ha hb h h' => (eq_or_key_ne (List.pairwise_map.mp hnd) a ha b (hp.mem_iff.mpr hb)).resolve_right
    fun hne => hne (Nat.le_antisymm h h')) h₁ h₂

theorem eq_of_perm_of_sorted_lt (key : α → Nat) {l s : List α} (hp : l.Perm s)
    (hl : l.Pairwise (fun a b => key a ≤ key b)) (hs : s.Pairwise (fun a b => key a < key b)) : l = s :=
  eq_of_perm_of_sorted_key key hp ((hp.map _).nodup_iff.mpr (List.pairwise_map.mpr (hs.imp Nat.ne_of_lt))) hl (hs.imp Nat.le_of_lt)

theorem foldl_inv {ι : Type} (P : α → Prop) {f : α → ι → α} {xs : List ι} (h : ∀ i ∈ xs, ∀ a, P a → P (f a i))
    {a : α} (ha : P a) : P (xs.foldl f a) :=
  List.foldlRecOn xs f ha fun a ha i hi => h i hi a ha

theorem foldl_fixed {ι : Type} {f : α → ι → α} {xs : List ι} {a : α} (h : ∀ i ∈ xs, f a i = a) : xs.foldl f a = a := by
  induction xs with
  | nil => rfl
  | cons i xs ih => rw [List.foldl_cons, h i List.mem_cons_self]; exact ih fun j hj => h j (List.mem_cons_of_mem _ hj)

theorem getD_replicate (n i : Nat) (v d : α) : (List.replicate n v).getD i d = if i < n then v else d := by
  simp only [List.getD_eq_getElem?_getD, List.getElem?_replicate]
  split <;> rfl

theorem getD_set_self {l : List α} {d : α} {i : Nat} (v : α) (h : i < l.length) : (l.set i v).getD i d = v := by
  simp [List.getD_eq_getElem?_getD, h]

theorem set_getD_self (l : List α) (d : α) (i : Nat) : l.set i (l.getD i d) = l := by
  apply List.ext_getElem <;> simp +contextual [List.getElem_set]

theorem getD_map_range (f : Nat → α) {d : α} {n i : Nat} (h : i < n) : ((List.range n).map f).getD i d = f i := by
  simp [List.getD_eq_getElem?_getD, List.getElem?_map, List.getElem?_range h]

theorem getD_map (f : α → β) (d : α) {e : β} {l : List α} {i : Nat} (h : i < l.length) :
    (l.map f).getD i e = f (l.getD i d) := by
  simp [List.getD_eq_getElem?_getD, List.getElem?_map, List.getElem?_eq_getElem h]

end SpVerif.Lists

namespace SpVerif.Fold

variable {α M : Type} {op : M → M → M} {e : M}

theorem foldl_op (assoc : ∀ a b c, op (op a b) c = op a (op b c)) (id_right : ∀ a, op a e = a) (g : α → M) (l : List α) (acc : M) :
    l.foldl (fun a x => op a (g x)) acc = op acc (l.foldl (fun a x => op a (g x)) e) := by
  -- `op acc` commutes with every step of the fold, and `acc` is `op acc e`
  rw [← List.foldl_hom (op acc) (g₂ := fun a x => op a (g x)) fun x y => assoc acc x (g y), id_right]

theorem foldl_map_flatten (f : List α → M) (hf : ∀ xs ys, f (xs ++ ys) = op (f xs) (f ys)) (ls : List (List α)) (acc : List α) :
    (ls.map f).foldl op (f acc) = f (acc ++ ls.flatten) := by
  induction ls generalizing acc with
  | nil => simp
  | cons l ls ih => rw [List.map_cons, List.foldl_cons, ← hf, ih, List.flatten_cons, List.append_assoc]

end SpVerif.Fold
