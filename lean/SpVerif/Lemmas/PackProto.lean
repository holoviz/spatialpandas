import SpVerif.Model.PackProto
import SpVerif.Lemmas.Pack
import Mathlib.Data.List.Perm.Basic
/-!
The fault-free run of `pack_partitions_to_parquet` (`Model/PackProto.lean`): the renumbering loop (`compactFrom_spec`), the run in
closed form (`run_eq`) and its independence of the order of the concatenation tasks (`run_order_irrelevant`); used by C10 and C18.
-/
namespace SpVerif.PackProto
open PackFS

/-- the loop invariant of the renumbering: `done` holds the first `j` outputs (all keys `< j`), `rest` the non-empty parts still
under their own index -/
theorem compactFrom_spec (j : Nat) (rest : List Nat) (done s : St) (hlb : ∀ x ∈ rest, j ≤ x) (hpw : rest.Pairwise (· < ·))
    (hdone : ∀ e ∈ done, e.1 < j) (hs : s.Perm (rest.map (fun i => (i, i)) ++ done)) :
    (compactFrom j rest s).Perm ((List.range' j rest.length).zip rest ++ done) := by
  induction rest generalizing j done s with
  | nil => exact hs
  | cons i rest ih =>
    obtain ⟨hgt, hpw⟩ := List.pairwise_cons.mp hpw
    have hji := hlb i (List.mem_cons_self ..)
    -- this iteration renames `(i, i)` to `(j, i)` and leaves the rest untouched
    have key : (if (i != j) = true then applyMove s (i, j) else s).Perm (rest.map (fun i => (i, i)) ++ (j, i) :: done) := by
      refine .trans ?_ List.perm_middle.symm
      split
      · refine applyMove_cons_perm hs fun e he => ?_
        rcases List.mem_append.mp he with he | he
        · obtain ⟨x, hx, rfl⟩ := List.mem_map.mp he
          have := hgt x hx; simp only; omega
        · have := hdone e he; omega
      · next hij =>
        obtain rfl : i = j := by simpa using hij
        exact hs
    refine (ih (j + 1) _ _ (fun x hx => by have := hgt x hx; omega) hpw
      (List.forall_mem_cons.mpr ⟨Nat.lt_succ_self j, fun e he => ?_⟩) key).trans List.perm_middle
    have := hdone e he; omega

theorem foldl_concat (nIn : Nat) (cells : Nat → Nat → Bool) (order : List Nat) (t : Tree) :
    order.foldl (concat nIn cells) t =
      { t with tmpDirs := t.tmpDirs.filter (fun x => !order.contains x),
               subs := t.subs.filter (fun s => !order.contains s.1),
               placeholders := t.placeholders.filter (fun x => !order.contains x),
               files := t.files ++ (order.filter (nonEmptyPart nIn cells)).map (fun i => (i, i)) } := by
  induction order generalizing t with
  | nil => simp
  | cons i rest ih =>
    rw [List.foldl_cons, ih]
    -- field by field: a filter of a filter is the filter by both tests (up to the order of the two tests)
    simp only [concat, List.filter_filter, List.contains_cons, Bool.not_or, List.filter_cons, Bool.and_comm, bne]
    split <;> simp

theorem compactFrom_perm (j : Nat) (l : List Nat) {s t : St} (h : s.Perm t) : (compactFrom j l s).Perm (compactFrom j l t) := by
  induction l generalizing j s t with
  | nil => exact h
  | cons i rest ih =>
    simp only [compactFrom]
    split
    · exact ih _ (applyMove_perm h _)
    · exact ih _ h

/-- the order of the concatenation tasks enters only through membership (`contains`) and, for the part files, through the order
in which they are appended before the renumbering -/
theorem run_eq (m : Mode) (overwrite : Bool) (n nIn : Nat) (cells : Nat → Nat → Bool) (order : List Nat) (t₀ : Tree) :
    run m overwrite n nIn cells order t₀ =
      let t1 := if overwrite then overwriteRm m t₀ else t₀
      { placeholders := (t1.placeholders ++ List.range n).filter (fun x => !order.contains x),
        tmpDirs := (if m = .inside then t1.tmpDirs else t1.tmpDirs ++ List.range n).filter (fun x => !order.contains x),
        subs := (t1.subs ++ (List.range n).flatMap (fun i => ((List.range nIn).filter (cells i)).map (fun j => (i, j)))).filter
          (fun s => !order.contains s.1),
        files := compactFrom 0 (nonEmptyList n nIn cells) (t1.files ++ (order.filter (nonEmptyPart nIn cells)).map (fun i => (i, i))),
        uuidDir := false, metaF := true, cmetaF := true, stale := t1.stale } := by
  simp only [PackProto.run, metadata, renumber, cleanup, foldl_concat, writeSubs, scaffold]

theorem filter_done {order : List Nat} {n : Nat} (hperm : order.Perm (List.range n)) {α} {l : List α} (key : α → Nat)
    (hl : ∀ a ∈ l, key a < n) : l.filter (fun a => !order.contains (key a)) = [] :=
  List.filter_eq_nil_iff.mpr fun a ha => by
    simpa using hperm.symm.subset (List.mem_range.mpr (hl a ha))

theorem run_order_irrelevant (m : Mode) (overwrite : Bool) (n nIn : Nat) (cells : Nat → Nat → Bool) (o₁ o₂ : List Nat)
    (h : o₁.Perm o₂) (t₀ : Tree) :
    let a := run m overwrite n nIn cells o₁ t₀
    let b := run m overwrite n nIn cells o₂ t₀
    a.placeholders = b.placeholders ∧ a.tmpDirs = b.tmpDirs ∧ a.subs = b.subs ∧ a.uuidDir = b.uuidDir ∧ a.metaF = b.metaF ∧
      a.cmetaF = b.cmetaF ∧ a.stale = b.stale ∧ a.files.Perm b.files := by
  have hc : ∀ x, o₁.contains x = o₂.contains x := fun x => by
    simp only [List.contains_eq_mem, h.mem_iff]
  simp only [run_eq, hc, true_and]
  exact compactFrom_perm _ _ (((h.filter _).map _).append_left _)

end SpVerif.PackProto
