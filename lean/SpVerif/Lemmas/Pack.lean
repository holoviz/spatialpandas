import SpVerif.Model.Pack
import SpVerif.Model.PackFS
import SpVerif.Lemmas.ListFacts
/-!
The cuts of `Pack` (`cutAt` loses and adds nothing), its key-sorted rows (`sortRows` orders, and gives back rows whose keys strictly
increase) and the renumbering moves of `PackFS` (`applyMove` up to the order in which the files are listed, and on an absent
source).
-/
namespace SpVerif.Pack

theorem flatten_cutAt {α} (cuts : List Nat) (off : Nat) (xs : List α) : (cutAt cuts off xs).flatten = xs := by
  induction cuts generalizing off xs with
  | nil => simp [cutAt]
  | cons c cs ih => simp only [cutAt, List.flatten_cons, ih, List.take_append_drop]

theorem length_cutAt {α} (cuts : List Nat) (off : Nat) (xs : List α) : (cutAt cuts off xs).length = cuts.length + 1 := by
  induction cuts generalizing off xs with
  | nil => simp [cutAt]
  | cons c cs ih => simp only [cutAt, List.length_cons, ih]

theorem sortRows_sorted (rows : List KRow) : (sortRows rows).Pairwise (fun a b => a.1 ≤ b.1) := by
  have := List.pairwise_mergeSort (le := fun (a b : KRow) => decide (a.1 ≤ b.1))
    (by intro a b c h1 h2; simp only [decide_eq_true_eq] at *; omega)
    (by intro a b; simp only [Bool.or_eq_true, decide_eq_true_eq]; omega) rows
  simpa [sortRows] using this

theorem sortRows_perm (rows : List KRow) : (sortRows rows).Perm rows := List.mergeSort_perm rows _

theorem sortRows_eq_of_perm {l s : List KRow} (hp : l.Perm s) (hs : s.Pairwise (fun a b => a.1 < b.1)) : sortRows l = s :=
  Lists.eq_of_perm_of_sorted_lt (·.1) ((sortRows_perm l).trans hp) (sortRows_sorted l) hs

end SpVerif.Pack

namespace SpVerif.PackFS

theorem applyMove_perm {s t : St} (h : s.Perm t) (m : Nat × Nat) : (applyMove s m).Perm (applyMove t m) := by
  unfold applyMove
  rw [h.any_eq]
  split
  · exact ((h.filter _).map _).append (h.filter _)
  · exact h

theorem applyMove_cons_perm {s r : St} {i j c : Nat} (hs : s.Perm ((i, c) :: r)) (hr : ∀ e ∈ r, e.1 ≠ i ∧ e.1 ≠ j) :
    (applyMove s (i, j)).Perm ((j, c) :: r) := by
  refine (applyMove_perm hs (i, j)).trans ?_
  have f1 : r.filter (fun e => e.1 == i) = [] := List.filter_eq_nil_iff.mpr fun e he => by simpa using (hr e he).1
  have f2 : r.filter (fun e => e.1 != i && e.1 != j) = r := List.filter_eq_self.mpr fun e he => by simpa using hr e he
  simp [applyMove, f1, f2]

/-- the `exists(p1)` guard of `move_retry` -/
theorem applyMove_of_absent {s : St} {m : Nat × Nat} (h : ∀ e ∈ s, e.1 ≠ m.1) : applyMove s m = s :=
  if_neg fun hc => by
    obtain ⟨e, he, heq⟩ := List.any_eq_true.mp hc
    exact h e he (beq_iff_eq.mp heq)

theorem applyMove_source_absent (s : St) {m : Nat × Nat} (h : m.1 ≠ m.2) : ∀ e ∈ applyMove s m, e.1 ≠ m.1 := by
  unfold applyMove
  split
  · intro e he
    rcases List.mem_append.mp he with he | he
    · obtain ⟨x, _, rfl⟩ := List.mem_map.mp he
      exact h.symm
    · exact bne_iff_ne.mp (Bool.and_eq_true_iff.mp (List.mem_filter.mp he).2).1
  · next hc =>
    intro e he heq
    exact hc (List.any_eq_true.mpr ⟨e, he, beq_iff_eq.mpr heq⟩)

end SpVerif.PackFS
