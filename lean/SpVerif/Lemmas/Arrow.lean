import SpVerif.Model.Arrow
/-! Views of shared Arrow buffers (C16): consecutive runs of a buffer delimited by offsets that do not decrease (`MonoOn`) concatenate
to one run (one nesting level: `level`; its base, plain runs: `telescope`), and what `_ListArrayBufferMixin` hands to the kernels
is such a run.  `View.WF` names the window condition; the lemmas and the C16 statements take it unfolded, as
`hwf : v.off + v.len + 1 ≤ o0.length` beside `ho : v.offs = o0 :: rest`. -/
namespace SpVerif.Arrow

theorem sl_append {α} (l : List α) {a b c : Nat} (hab : a ≤ b) (hbc : b ≤ c) : sl l a b ++ sl l b c = sl l a c := by
  unfold sl
  have e1 : l.drop b = (l.drop a).drop (b - a) := by rw [List.drop_drop]; congr 1; omega
  have e2 : c - a = (b - a) + (c - b) := by omega
  rw [e1, e2, List.take_add]

theorem sl_self {α} (l : List α) (a : Nat) : sl l a a = [] := by simp [sl]

theorem sl_nil {α} (a b : Nat) : sl ([] : List α) a b = [] := by simp [sl]

theorem rng_eq_range' (s e : Nat) : rng s e = List.range' s (e - s) := by
  simp [rng, List.range'_eq_map_range, Nat.add_comm]

theorem rng_of_ge (s e : Nat) (h : e ≤ s) : rng s e = [] := by
  rw [rng_eq_range', Nat.sub_eq_zero_of_le h]; rfl

theorem mem_rng {s e k : Nat} : k ∈ rng s e ↔ s ≤ k ∧ k < e := by
  rw [rng_eq_range', List.mem_range'_1]; omega

theorem length_rng (s e : Nat) : (rng s e).length = e - s := by simp [rng]

def MonoOn (g : Nat → Nat) (s e : Nat) : Prop := ∀ k, s ≤ k → k < e → g k ≤ g (k + 1)

theorem MonoOn.le {g : Nat → Nat} {s e a b : Nat} (h : MonoOn g s e) (hsa : s ≤ a) (hab : a ≤ b) (hbe : b ≤ e) : g a ≤ g b := by
  induction hab with
  | refl => exact Nat.le_refl _
  | step hab ih => exact Nat.le_trans (ih (Nat.le_of_succ_le hbe)) (h _ (Nat.le_trans hsa hab) hbe)

theorem MonoOn.child {g : Nat → Nat} {s e k : Nat} (h : MonoOn g s e) (h1 : s ≤ k) (h2 : k < e) :
    g s ≤ g k ∧ g k ≤ g (k + 1) ∧ g (k + 1) ≤ g e :=
  ⟨h.le (Nat.le_refl _) h1 (Nat.le_of_lt h2), h k h1 h2, h.le (Nat.le_succ_of_le h1) h2 (Nat.le_refl _)⟩

/-- one nesting level, on a window `[s, e]` of a level with offsets `g`: if below it the children `[a, b)` flatten (`R a b`) to the
run `[h a, h b)` of the value buffer, the children `[a, b)` of this level flatten to the run `[h (g a), h (g b))`.  Hypotheses
speak of the whole window and the conclusion of every part of it, so a caller passes on what it was given and never restricts
a `MonoOn` to the children of one element. -/
theorem level {α} {l : List α} {g h : Nat → Nat} {R : Nat → Nat → List α} {s e : Nat}
    (hg : MonoOn g s e) (hh : MonoOn h (g s) (g e)) (hR : ∀ a b, g s ≤ a → a ≤ b → b ≤ g e → R a b = sl l (h a) (h b))
    {a b : Nat} (hsa : s ≤ a) (hab : a ≤ b) (hbe : b ≤ e) :
    ((rng a b).map (fun k => R (g k) (g (k + 1)))).flatten = sl l (h (g a)) (h (g b)) := by
  obtain ⟨n, rfl⟩ := Nat.exists_eq_add_of_le hab
  rw [rng_eq_range', Nat.add_sub_cancel_left]
  induction n with
  | zero => simp [sl_self]
  | succ n ih =>
    -- the runs of `[a, a + n)` and of child `a + n` are adjacent: `g s ≤ g a ≤ g (a + n) ≤ g (a + n + 1) ≤ g e`, and `h` on top
    have h0 := hg.le (Nat.le_refl _) hsa (Nat.le_trans (Nat.le_add_right ..) hbe)
    have h1 := hg.le hsa (Nat.le_add_right a n) (Nat.le_of_succ_le hbe)
    obtain ⟨_, h2, h3⟩ := hg.child (Nat.le_trans hsa (Nat.le_add_right a n)) hbe
    rw [List.range'_1_concat, List.map_append, List.flatten_append, ih (Nat.le_add_right ..) (Nat.le_of_succ_le hbe)]
    simp only [List.map_cons, List.map_nil, List.flatten_cons, List.flatten_nil, List.append_nil,
      hR _ _ (Nat.le_trans h0 h1) h2 h3]
    exact sl_append l (hh.le h0 h1 (Nat.le_trans h2 h3)) (hh.le (Nat.le_trans h0 h1) h2 h3)

theorem telescope {α} (l : List α) {g : Nat → Nat} {s e : Nat} (hm : MonoOn g s e) {a b : Nat} (hsa : s ≤ a) (hab : a ≤ b)
    (hbe : b ≤ e) : ((rng a b).map (fun k => sl l (g k) (g (k + 1)))).flatten = sl l (g a) (g b) :=
  level (h := id) (R := sl l) hm (fun k _ _ => Nat.le_succ k) (fun _ _ _ _ _ => rfl) hsa hab hbe

theorem flat2 (vals : List Int) {o : List Nat} {s e : Nat} (hm : MonoOn (rd o) s e) {a b : Nat} (hsa : s ≤ a) (hab : a ≤ b)
    (hbe : b ≤ e) : (elem2 vals o a b).flatten = sl vals (rd o a) (rd o b) :=
  telescope vals hm hsa hab hbe

theorem flat3 (vals : List Int) {o1 o2 : List Nat} {s e : Nat} (hm1 : MonoOn (rd o1) s e)
    (hm2 : MonoOn (rd o2) (rd o1 s) (rd o1 e)) {a b : Nat} (hsa : s ≤ a) (hab : a ≤ b) (hbe : b ≤ e) :
    ((elem3 vals o1 o2 a b).map List.flatten).flatten = sl vals (rd o2 (rd o1 a)) (rd o2 (rd o1 b)) := by
  rw [elem3, List.map_map]
  exact level (R := fun x y => (elem2 vals o2 x y).flatten) hm1 hm2 (fun _ _ => flat2 vals hm2) hsa hab hbe

theorem range_window {β} (f : Nat → β) (off len s n : Nat) (h : s + n ≤ len) :
    (List.range n).map (fun i => f (off + s + i)) = sl ((List.range len).map (fun i => f (off + i))) s (s + n) := by
  unfold sl
  apply List.ext_getElem
  · simp; omega
  · intro i h1 h2
    simp only [List.length_map, List.length_range] at h1
    simp [List.getElem_take, List.getElem_drop, Nat.add_assoc]

theorem elems1_slice (v : View) (s n : Nat) (h : s + n ≤ v.len) : elems1 (v.slice s n) = sl (elems1 v) s (s + n) := by
  simp only [elems1, View.slice]
  split
  · exact range_window _ v.off v.len s n h
  · exact (sl_nil _ _).symm

theorem elems2_slice (v : View) (s n : Nat) (h : s + n ≤ v.len) : elems2 (v.slice s n) = sl (elems2 v) s (s + n) := by
  simp only [elems2, View.slice]
  split
  · exact range_window _ v.off v.len s n h
  · exact (sl_nil _ _).symm

theorem elems3_slice (v : View) (s n : Nat) (h : s + n ≤ v.len) : elems3 (v.slice s n) = sl (elems3 v) s (s + n) := by
  simp only [elems3, View.slice]
  split
  · exact range_window _ v.off v.len s n h
  · exact (sl_nil _ _).symm

theorem rd_map (f : Nat → Nat) {l : List Nat} {i : Nat} (h : i < l.length) : rd (l.map f) i = f (rd l i) := by
  simp [rd, h]

theorem rd_gather (o flat : List Nat) (i : Nat) (h : i < flat.length) : rd (gather o flat) i = rd o (rd flat i) :=
  rd_map (rd o) h

theorem foldl_gather (rest : List (List Nat)) (flat : List Nat) :
    rest.foldl (fun flat o => gather o flat) flat = flat.map (thru rest) := by
  induction rest generalizing flat with
  | nil => exact (List.map_id _).symm
  | cons o rest ih => rw [List.foldl_cons, ih, gather, List.map_map]; rfl

/-- the first offsets buffer holds the `len + 1` entries of the window -/
def View.WF (v : View) : Prop := ∀ o0 ∈ v.offs.head?, v.off + v.len + 1 ≤ o0.length

/- the cut `bufferOffsets` makes of the first offsets buffer -/
theorem length_win {o0 : List Nat} {off len : Nat} (hwf : off + len + 1 ≤ o0.length) :
    (sl o0 off (off + len + 1)).length = len + 1 := by
  simp only [sl, List.length_take, List.length_drop]
  omega

theorem rd_win (o0 : List Nat) (off : Nat) {len i : Nat} (hi : i ≤ len) : rd (sl o0 off (off + len + 1)) i = rd o0 (off + i) := by
  have : i < off + len + 1 - off := by omega
  simp only [rd, sl, List.getD_eq_getElem?_getD, List.getElem?_take, this, if_true, List.getElem?_drop]

theorem outerOffsets_eq {v : View} {o0 : List Nat} {rest : List (List Nat)} (ho : v.offs = o0 :: rest) :
    outerOffsets v = (sl o0 v.off (v.off + v.len + 1)).map (thru rest) := by
  simp only [outerOffsets, bufferOffsets, ho, foldl_gather]

theorem outerOffsets_rd {v : View} {o0 : List Nat} {rest : List (List Nat)} (ho : v.offs = o0 :: rest)
    (hwf : v.off + v.len + 1 ≤ o0.length) {i : Nat} (hi : i ≤ v.len) :
    rd (outerOffsets v) i = thru rest (rd o0 (v.off + i)) := by
  rw [outerOffsets_eq ho, rd_map _ (by rw [length_win hwf]; omega), rd_win _ _ hi]

theorem outerOffsets_length (v : View) (o0 : List Nat) (rest : List (List Nat)) (ho : v.offs = o0 :: rest)
    (hwf : v.off + v.len + 1 ≤ o0.length) : (outerOffsets v).length = v.len + 1 := by
  rw [outerOffsets_eq ho, List.length_map, length_win hwf]

/-- what a kernel reads for element `i`, at any depth -/
theorem kernel_run {v : View} {o0 : List Nat} {rest : List (List Nat)} (ho : v.offs = o0 :: rest)
    (hwf : v.off + v.len + 1 ≤ o0.length) {i : Nat} (hi : i < v.len) :
    sl v.vals (rd (outerOffsets v) i) (rd (outerOffsets v) (i + 1)) =
      sl v.vals (thru rest (rd o0 (v.off + i))) (thru rest (rd o0 (v.off + i + 1))) := by
  rw [outerOffsets_rd ho hwf (Nat.le_of_lt hi), outerOffsets_rd ho hwf (Nat.succ_le_of_lt hi)]
  rfl  -- `v.off + (i + 1)` is `v.off + i + 1` by computation

theorem flatValues_eq {v : View} {o0 : List Nat} {rest : List (List Nat)} (ho : v.offs = o0 :: rest)
    (hwf : v.off + v.len + 1 ≤ o0.length) :
    flatValues v = sl v.vals (thru rest (rd o0 v.off)) (thru rest (rd o0 (v.off + v.len))) := by
  simp only [flatValues, bufferOffsets, ho]
  rw [length_win hwf, Nat.add_sub_cancel, rd_win _ _ (Nat.zero_le _), rd_win _ _ (Nat.le_refl _)]
  rfl

theorem innerOffsets_eq {v : View} {o0 o1 : List Nat} {rest : List (List Nat)} (ho : v.offs = o0 :: o1 :: rest)
    (hwf : v.off + v.len + 1 ≤ o0.length) :
    innerOffsets v = sl ((o1 :: rest).getLast (List.cons_ne_nil _ _))
      (thru (o1 :: rest).dropLast (rd o0 v.off)) (thru (o1 :: rest).dropLast (rd o0 (v.off + v.len)) + 1) := by
  simp only [innerOffsets, bufferOffsets, ho, List.getLastD, List.dropLast_cons_cons, List.drop_one, List.tail_cons]
  rw [length_win hwf, Nat.add_sub_cancel, rd_win _ _ (Nat.zero_le _), rd_win _ _ (Nat.le_refl _)]
  simp

end SpVerif.Arrow
