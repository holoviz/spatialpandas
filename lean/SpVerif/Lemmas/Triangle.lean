import SpVerif.Lemmas.WindQ
/-! C02: the coded winding number of a triangle.  About a point strictly inside, it is the triangle's orientation (±1); wherever it
is positive (negative), the triangle is counter-clockwise (clockwise) and the point lies in the closed triangle - so it is 0
strictly outside, and everywhere for a degenerate triangle. -/
namespace SpVerif.Geom

theorem bary_y (a b c p : Pt) :
    orientI a b p * (c.2 - p.2) + orientI b c p * (a.2 - p.2) + orientI c a p * (b.2 - p.2) = 0 := by
  unfold orientI; ring

theorem orient_sum (a b c p : Pt) : orientI a b p + orientI b c p + orientI c a p = orientI a b c := by
  unfold orientI; ring

theorem triangle_levels (a b c p : Pt) (h1 : 0 < orientI a b p) (h2 : 0 < orientI b c p) (h3 : 0 < orientI c a p) :
    ¬ (p.2 ≤ a.2 ∧ p.2 ≤ b.2 ∧ p.2 ≤ c.2) ∧ ¬ (a.2 < p.2 ∧ b.2 < p.2 ∧ c.2 < p.2) := by
  have hb := bary_y a b c p
  constructor
  · -- the three products of `bary_y` are non-negative, so zero: all four points are level and `orientI a b p = 0`
    rintro ⟨ga, gb, gc⟩
    have t1 := Int.mul_nonneg h1.le (Int.sub_nonneg_of_le gc)
    have t2 := Int.mul_nonneg h2.le (Int.sub_nonneg_of_le ga)
    have t3 := Int.mul_nonneg h3.le (Int.sub_nonneg_of_le gb)
    have ea := (Int.mul_eq_zero.mp (by omega : orientI b c p * (a.2 - p.2) = 0)).resolve_left h2.ne'
    have eb := (Int.mul_eq_zero.mp (by omega : orientI c a p * (b.2 - p.2) = 0)).resolve_left h3.ne'
    have : orientI a b p = 0 := by
      rw [orientI, show p.2 - a.2 = 0 by omega, show b.2 - a.2 = 0 by omega]; simp
    omega
  · rintro ⟨ga, gb, gc⟩
    have t1 := Int.mul_neg_of_pos_of_neg h1 (Int.sub_neg_of_lt gc)
    have t2 := Int.mul_neg_of_pos_of_neg h2 (Int.sub_neg_of_lt ga)
    have t3 := Int.mul_neg_of_pos_of_neg h3 (Int.sub_neg_of_lt gb)
    omega

theorem triangle_ccw_inside (a b c p : Pt) (h1 : 0 < orientI a b p) (h2 : 0 < orientI b c p) (h3 : 0 < orientI c a p) :
    windSum p [a, b, c, a] = 1 := by
  obtain ⟨l1, l2⟩ := triangle_levels a b c p h1 h2 h3
  simp only [windSum, edgeContrib_eq]
  have n1 : ¬ orientI a b p ≤ 0 := not_le.2 h1
  have n2 : ¬ orientI b c p ≤ 0 := not_le.2 h2
  have n3 : ¬ orientI c a p ≤ 0 := not_le.2 h3
  simp only [n1, n2, n3, h1.le, h2.le, h3.le, and_false, and_true, if_false]
  -- each edge now counts 1 exactly when it goes up through the height of `p`; the three vertices are not all on one side of
  -- that height (`triangle_levels`), and a walk round two levels goes up exactly once
  split <;> split <;> split <;> omega

theorem triangle_cw_inside (a b c p : Pt) (h1 : orientI a b p < 0) (h2 : orientI b c p < 0) (h3 : orientI c a p < 0) :
    windSum p [a, b, c, a] = -1 := by
  have hr : windSum p [a, b, c, a] = - windSum p [a, c, b, a] := windSum_reverse p [a, c, b, a]
  rw [hr, triangle_ccw_inside a c b p (by rw [orientI_swap]; omega) (by rw [orientI_swap]; omega) (by rw [orientI_swap]; omega)]

/-- `triangle_winding_pos` when the edge `b c` does not cross the height of `p`: then `a` lies on the other side of that height, the
edges `a b` and `c a` both cross it, and of the three products in `bary_y` two have a known sign: that gives the sign of the third
orientation -/
theorem triangle_winding_pos_aux (a b c p : Pt) (hbc : p.2 ≤ b.2 ↔ p.2 ≤ c.2)
    (hW : 0 < edgeContrib p a b + edgeContrib p c a) :
    0 ≤ orientI a b p ∧ 0 ≤ orientI b c p ∧ 0 ≤ orientI c a p ∧ 0 < orientI a b p + orientI c a p := by
  rw [edgeContrib_eq, edgeContrib_eq] at hW
  split_ifs at hW <;> try omega
  · -- `a` below, `b` and `c` at or above
    have t1 := Int.mul_nonneg (a := orientI a b p) (b := c.2 - p.2) (by omega) (by omega)
    have t3 := Int.mul_nonneg (a := orientI c a p) (b := b.2 - p.2) (by omega) (by omega)
    have hb := bary_y a b c p
    have := nonneg_of_mul_nonpos_left (a := orientI b c p) (b := a.2 - p.2) (by omega) (by omega)
    omega
  · -- `a` at or above, `b` and `c` below: `p` is strictly left of `a b`, which makes up for `a` being allowed at the height of `p`
    have t1 := Int.mul_neg_of_pos_of_neg (a := orientI a b p) (b := c.2 - p.2) (by omega) (by omega)
    have t3 := Int.mul_nonpos_of_nonneg_of_nonpos (a := orientI c a p) (b := b.2 - p.2) (by omega) (by omega)
    have hb := bary_y a b c p
    have := pos_of_mul_pos_left (a := orientI b c p) (b := a.2 - p.2) (by omega) (by omega)
    omega

/-- two of the three vertices lie on the same side of the height of `p`; the edge between them contributes nothing, and
`triangle_winding_pos_aux` applies to the triangle read from the third vertex -/
theorem triangle_winding_pos (a b c p : Pt) (hW : 0 < windSum p [a, b, c, a]) :
    0 ≤ orientI a b p ∧ 0 ≤ orientI b c p ∧ 0 ≤ orientI c a p ∧ 0 < orientI a b c := by
  rw [← orient_sum a b c p]
  simp only [windSum] at hW
  by_cases hbc : p.2 ≤ b.2 ↔ p.2 ≤ c.2
  · rw [edgeContrib_level p b c hbc] at hW
    have := triangle_winding_pos_aux a b c p hbc (by omega)
    omega
  · by_cases hca : p.2 ≤ c.2 ↔ p.2 ≤ a.2
    · rw [edgeContrib_level p c a hca] at hW
      have := triangle_winding_pos_aux b c a p hca (by omega)
      omega
    · rw [edgeContrib_level p a b (by omega)] at hW
      have := triangle_winding_pos_aux c a b p (by omega) (by omega)
      omega

theorem triangle_winding_neg (a b c p : Pt) (hW : windSum p [a, b, c, a] < 0) :
    orientI a b p ≤ 0 ∧ orientI b c p ≤ 0 ∧ orientI c a p ≤ 0 ∧ orientI a b c < 0 := by
  have hr : windSum p [a, c, b, a] = - windSum p [a, b, c, a] := windSum_reverse p [a, b, c, a]
  have := triangle_winding_pos a c b p (by omega)
  rw [← orient_sum a c b p, orientI_swap c a p, orientI_swap b c p, orientI_swap a b p] at this
  rw [← orient_sum a b c p]
  omega

theorem triangle_winding_zero (a b c p : Pt)
    (hpos : ¬ (0 ≤ orientI a b p ∧ 0 ≤ orientI b c p ∧ 0 ≤ orientI c a p ∧ 0 < orientI a b c))
    (hneg : ¬ (orientI a b p ≤ 0 ∧ orientI b c p ≤ 0 ∧ orientI c a p ≤ 0 ∧ orientI a b c < 0)) :
    windSum p [a, b, c, a] = 0 := by
  rcases Int.lt_trichotomy (windSum p [a, b, c, a]) 0 with h | h | h
  · exact absurd (triangle_winding_neg a b c p h) hneg
  · exact h
  · exact absurd (triangle_winding_pos a b c p h) hpos

theorem triangle_degenerate (a b c p : Pt) (hA : orientI a b c = 0) : windSum p [a, b, c, a] = 0 :=
  triangle_winding_zero a b c p (by omega) (by omega)

end SpVerif.Geom
