import SpVerif.Lemmas.LineBox
import SpVerif.Lemmas.Area
/-!
C02: point on segment, point on line; the edge rule of the winding loop in closed form (`edgeContrib_eq`); the loops as sums
over consecutive vertex pairs.
-/
namespace SpVerif.Geom

/-- twice the signed area of the triangle `a b p`: positive when `p` lies to the left of the directed line `a → b` -/
def orientI (a b p : Pt) : Int := (b.1 - a.1) * (p.2 - a.2) - (b.2 - a.2) * (p.1 - a.1)

theorem orientI_swap (a b p : Pt) : orientI b a p = - orientI a b p := by
  unfold orientI; ring

theorem orientI_cast (a b p : Pt) : ((orientI a b p : Int) : ℚ) = orientQ a b ((p.1 : ℚ), (p.2 : ℚ)) := by
  unfold orientI orientQ; push_cast; ring

theorem segPoint_iff (p : Pt) (s : Pt × Pt) : segPoint p s = true ↔ OnSeg s.1 s.2 ((p.1 : ℚ), (p.2 : ℚ)) := by
  rw [onSeg_iff, ← orientI_cast, Int.cast_eq_zero]
  simp only [← Int.cast_min, ← Int.cast_max, Int.cast_le]
  simp only [segPoint, orientI, Bool.or_eq_true, decide_eq_true_eq, beq_iff_eq, Bool.if_false_left, Bool.and_eq_true, Bool.not_eq_true',
    decide_eq_false_iff_not, not_or, not_lt, gt_iff_lt]
  tauto

theorem ptQ_inj {a b : Pt} (h : (((a.1 : ℚ)), ((a.2 : ℚ))) = ((b.1 : ℚ), (b.2 : ℚ))) : a = b := by
  have h1 : (a.1 : ℚ) = b.1 := (Prod.mk.injEq _ _ _ _ ▸ h).1
  have h2 : (a.2 : ℚ) = b.2 := (Prod.mk.injEq _ _ _ _ ▸ h).2
  exact Prod.ext (by exact_mod_cast h1) (by exact_mod_cast h2)

theorem pointLine_iff (p : Pt) (l : List Pt) : pointLine p l = true ↔ LinePoint l ((p.1 : ℚ), (p.2 : ℚ)) := by
  -- the vertex and segment tests are exact; the bounding-box reject before them loses nothing
  have tests : (l.any (· == p) || (segs l).any (segPoint p)) = true ↔ LinePoint l ((p.1 : ℚ), (p.2 : ℚ)) := by
    simp only [Bool.or_eq_true, List.any_eq_true, beq_iff_eq, segPoint_iff, LinePoint]
    exact or_congr ⟨fun ⟨v, hv, e⟩ => ⟨v, hv, e ▸ rfl⟩, fun ⟨v, hv, e⟩ => ⟨v, hv, ptQ_inj e.symm⟩⟩ Iff.rfl
  cases hbb : bboxOf l with
  | none => rw [← tests, (bboxOf_none_iff l).mp hbb]; rfl
  | some bb =>
    simp only [pointLine, hbb]
    split
    · next hrej =>
      refine iff_of_false Bool.false_ne_true fun hlp => ?_
      have := inBoxQ_cast.mp (linePoint_in_bbox hbb hlp)
      simp only [Bool.or_eq_true, decide_eq_true_eq, BoxHas] at hrej this
      omega
    · exact tests

theorem edgeContrib_desc (p : Pt) {a b : Pt} (h : b.2 < a.2) : edgeContrib p a b = - edgeContrib p b a := by
  have h1 : ¬ a.2 < b.2 := by omega
  have h2 : ¬ b.2 = a.2 := by omega
  have h3 : ¬ a.2 = b.2 := by omega
  simp only [edgeContrib, h, h1, h2, h3, beq_iff_eq, if_true, if_false]
  split_ifs <;> rfl

/-- inside the band of an ascending edge the sign of the cross product is forced when both ends are on one side of `p`: this is what
the kernel's two shortcuts on `x` rely on -/
theorem orient_band {p a b : Pt} (h1 : a.2 < p.2) (h2 : p.2 ≤ b.2) :
    (a.1 < p.1 → b.1 < p.1 → orientI a b p < 0) ∧ (p.1 ≤ a.1 → p.1 ≤ b.1 → 0 ≤ orientI a b p) := by
  have e : orientI a b p = (b.1 - p.1) * (p.2 - a.2) + (a.1 - p.1) * (b.2 - p.2) := by unfold orientI; ring
  constructor <;> intro ha hb
  · have := Int.mul_neg_of_neg_of_pos (Int.sub_neg_of_lt hb) (Int.sub_pos_of_lt h1)
    have := Int.mul_nonpos_of_nonpos_of_nonneg (Int.sub_nonpos_of_le ha.le) (Int.sub_nonneg_of_le h2)
    omega
  · have := Int.mul_nonneg (Int.sub_nonneg_of_le hb) (Int.sub_pos_of_lt h1).le
    have := Int.mul_nonneg (Int.sub_nonneg_of_le ha) (Int.sub_nonneg_of_le h2)
    omega

theorem edgeContrib_asc (p : Pt) {a b : Pt} (h : a.2 < b.2) :
    edgeContrib p a b = if a.2 < p.2 ∧ p.2 ≤ b.2 ∧ 0 ≤ orientI a b p then 1 else 0 := by
  have h1 : ¬ b.2 < a.2 := by omega
  have h2 : ¬ b.2 = a.2 := by omega
  have hA : (a.1 - p.1) * (b.2 - p.2) - (a.2 - p.2) * (b.1 - p.1) = orientI a b p := by unfold orientI; ring
  have := @orient_band p a b
  simp only [edgeContrib, h1, h2, beq_iff_eq, if_false, hA, Bool.or_eq_true, Bool.and_eq_true, decide_eq_true_eq]
  split_ifs <;> omega

/-- **the edge rule**: the coded contribution of the directed edge `a → b` at `p` in closed form.  Half-open in `y`
(`lower.y < p.y ≤ upper.y`), closed on the edge's line (`orient ≥ 0` counts): this pins every comparison of the kernel -/
theorem edgeContrib_eq (p a b : Pt) :
    edgeContrib p a b =
      if a.2 < p.2 ∧ p.2 ≤ b.2 ∧ 0 ≤ orientI a b p then 1
      else if b.2 < p.2 ∧ p.2 ≤ a.2 ∧ orientI a b p ≤ 0 then -1 else 0 := by
  rcases Int.lt_trichotomy a.2 b.2 with h | h | h
  · rw [edgeContrib_asc p h, if_neg (fun c => by omega : ¬ (b.2 < p.2 ∧ p.2 ≤ a.2 ∧ orientI a b p ≤ 0))]
  · have n1 : ¬ (a.2 < p.2 ∧ p.2 ≤ b.2 ∧ 0 ≤ orientI a b p) := by omega
    have n2 : ¬ (b.2 < p.2 ∧ p.2 ≤ a.2 ∧ orientI a b p ≤ 0) := by omega
    rw [if_neg n1, if_neg n2]; simp [edgeContrib, h]
  · rw [edgeContrib_desc p h, edgeContrib_asc p h, orientI_swap, if_neg (fun c => by omega : ¬ (a.2 < p.2 ∧ p.2 ≤ b.2 ∧ 0 ≤ orientI a b p))]
    simp only [Int.neg_nonneg]
    split_ifs <;> rfl

theorem edgeContrib_level (p a b : Pt) (h : p.2 ≤ a.2 ↔ p.2 ≤ b.2) : edgeContrib p a b = 0 := by
  rw [edgeContrib_eq, if_neg (by omega), if_neg (by omega)]

def windSum (p : Pt) : List Pt → Int
  | a :: b :: rest => edgeContrib p a b + windSum p (b :: rest)
  | _ => 0

theorem windSum_eq (p : Pt) (r : List Pt) : windSum p r = segSum (edgeContrib p) r :=
  eq_segSum rfl (fun _ => rfl) (fun _ _ _ => rfl) r

theorem ringWinding_eq (p : Pt) (r : List Pt) : ringWinding p r = windSum p r := by
  rw [windSum_eq, ringWinding, segSum, List.sum_eq_foldl, List.foldl_map]

theorem winding_eq_sum (p : Pt) (rings : List (List Pt)) : winding p rings = (rings.map (ringWinding p)).sum := by
  rw [winding, List.sum_eq_foldl, List.foldl_map]

theorem windSum_append_single (p : Pt) (l : List Pt) (z : Pt) (h : l ≠ []) :
    windSum p (l ++ [z]) = windSum p l + edgeContrib p (lastPt l) z := by
  rw [windSum_eq, windSum_eq, segSum_append_single _ l z h]

end SpVerif.Geom
