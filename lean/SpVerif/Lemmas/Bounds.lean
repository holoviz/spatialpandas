import SpVerif.Model.Bounds
import SpVerif.Lemmas.ListFacts
/-!
# C13: NaN-ignoring unions of ranges and of bounds rows

The scan `axisRange` is a fold of `Range.union` (`foldl_add`), so the range of a concatenation is the union of the ranges
(`axisRange_append`).  Then the index's total bounds against the root box of the tree (D41): `_build_hilbert_rtree` leaves every row
with a NaN entry out of the tree, `HilbertRtree.total_bounds` as coded takes, per column, the non-NaN entries of all rows - per axis
the NaN-ignoring union `Row.union` (both ends of an axis of a bounds row are defined or undefined together).
-/
namespace SpVerif.Bounds

theorem Range.union_none_right (r : Range) : r.union none = r := by cases r <;> rfl
theorem Range.union_none_left (r : Range) : Range.union none r = r := by cases r <;> rfl

theorem Range.union_assoc (a b c : Range) : (a.union b).union c = a.union (b.union c) := by
  rcases a with _ | ⟨a1, a2⟩ <;> rcases b with _ | ⟨b1, b2⟩ <;> rcases c with _ | ⟨c1, c2⟩ <;>
    simp only [Range.union, Int.min_assoc, Int.max_assoc]

theorem Range.add_eq_union (r : Range) (c : Coord) : r.add c = r.union (Range.add none c) := by
  cases c <;> cases r <;> simp [Range.add, Range.union]

theorem foldl_add (cs : List Coord) (acc : Range) : cs.foldl Range.add acc = acc.union (axisRange cs) := by
  have h := Fold.foldl_op Range.union_assoc Range.union_none_right (Range.add none) cs acc
  simp only [← Range.add_eq_union] at h
  exact h

theorem axisRange_append (xs ys : List Coord) : axisRange (xs ++ ys) = (axisRange xs).union (axisRange ys) := by
  unfold axisRange
  rw [List.foldl_append, foldl_add]
  rfl

theorem axisRange_cons (c : Coord) (cs : List Coord) : axisRange (c :: cs) = (Range.add none c).union (axisRange cs) :=
  -- `axisRange [c]` is `Range.add none c` by computation
  axisRange_append [c] cs

theorem axisRange_cons_skip {c : Coord} (h : Range.add none c = none) (cs : List Coord) : axisRange (c :: cs) = axisRange cs := by
  rw [axisRange_cons, h, Range.union_none_left]

/-- a bounds row without a NaN entry: such rows are the ones the tree holds -/
def Row.defined (r : Row) : Bool := r.x.isSome && r.y.isSome

/-- the root box of the tree: the union of the rows that are in it -/
def rootBox (rows : List Row) : Row := (rows.filter Row.defined).foldl Row.union Row.empty

/-- `HilbertRtree.total_bounds` as coded: NaN-ignoring minimum / maximum per column over all rows -/
def indexTotal (rows : List Row) : Row := rows.foldl Row.union Row.empty

theorem Row.union_empty_right (r : Row) : r.union Row.empty = r := by
  rw [Row.union, Row.empty, Range.union_none_right, Range.union_none_right]

theorem rootBox_gen (rows : List Row) (h : ∀ r ∈ rows, r.defined = true ∨ r = Row.empty) (acc : Row) :
    (rows.filter Row.defined).foldl Row.union acc = rows.foldl Row.union acc := by
  -- a row that the filter drops is the empty row, which changes no union
  rw [List.foldl_filter]
  refine List.foldl_rel (r := Eq) rfl fun r hr a _ e => e ▸ ?_
  rcases h r hr with hd | rfl
  · rw [if_pos hd]
  · exact (Row.union_empty_right a).symm

end SpVerif.Bounds
