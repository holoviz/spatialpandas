import SpVerif.Model.Dask
import SpVerif.Lemmas.BoxFacts
import SpVerif.Lemmas.RTree
import SpVerif.Lemmas.ListFacts
/-! Bridges between the `Box` tests of the kernels and the `NBox` tests of the index / pruning layers at d = 2 (`nbox`; `.cx` and the
joins use them as well as the Dask layer), and the partition-bounds facts used by C06 / C12 / C17. -/
namespace SpVerif.Dask
open SpVerif.Geom SpVerif.Frames SpVerif.RTree SpVerif.Lists

def nbox (b : Box) : NBox := [b.x0, b.y0, b.x1, b.y1]

/-! `lo (nbox b) 0` is `b.x0` by computation (and so on), so after `forall_lt_two` the two sides differ by bracketing only -/

theorem sub_nbox (a c : Box) : RTree.Sub 2 (nbox a) (nbox c) ↔ BoxSub a c :=
  forall_lt_two.trans and_assoc

theorem inside_nbox (b bb : Box) : inside 2 (nbox b) (nbox bb) = true ↔ BoxSub bb b :=
  (inside_iff 2 _ _).trans (sub_nbox bb b)

theorem outside_nbox (b bb : Box) : outside 2 (nbox b) (nbox bb) = bboxOutside bb b := by
  rw [Bool.eq_iff_iff, outside_iff, exists_lt_two, bboxOutside]
  simp only [Bool.or_eq_true, decide_eq_true_eq]
  show (b.x1 < bb.x0 ∨ b.x0 > bb.x1) ∨ (b.y1 < bb.y0 ∨ b.y0 > bb.y1) ↔ _
  omega

theorem elemBounds_eq {e : Elem} {bb : Box} (h : bboxOf (elemVerts e) = some bb) : elemBounds (some e) = some (nbox bb) := by
  simp [elemBounds, h, nbox]

theorem totalBounds_append (xs ys : List (Option Elem)) :
    totalBounds (xs ++ ys) = unionOpt 2 (totalBounds xs) (totalBounds ys) :=
  foldl_unionOpt_append 2 elemBounds xs ys

theorem totalBounds_cons (e : Option Elem) (ys : List (Option Elem)) :
    totalBounds (e :: ys) = unionOpt 2 (elemBounds e) (totalBounds ys) :=
  foldl_unionOpt_cons 2 elemBounds e ys

theorem totalBounds_contains {els : List (Option Elem)} {e : Option Elem} (he : e ∈ els) {b : NBox} (hb : elemBounds e = some b) :
    ∃ B, totalBounds els = some B ∧ RTree.Sub 2 b B :=
  foldl_unionOpt_contains 2 elemBounds he hb

theorem totalBounds_overlaps {b : Box} (hb : orientBox b = b) {part : Part} {e : Elem} (he : some e ∈ part)
    (hit : elemIB b (some e) = true) : ∃ B, totalBounds part = some B ∧ outside 2 (nbox b) B = false := by
  obtain ⟨bb, hbb, ho⟩ := elemIB_overlaps hit
  obtain ⟨B, hB, hsub⟩ := totalBounds_contains he (elemBounds_eq hbb)
  rw [hb, ← outside_nbox] at ho
  exact ⟨B, hB, not_outside_mono hsub ho⟩

theorem cxPartitions_eq_filter (b : Box) (parts : List Part) :
    cxPartitions b parts = (List.range parts.length).filter
      (fun i => boxOverlaps [b.x0, b.y0, b.x1, b.y1] ((partitionBounds parts).getD i none)) := by
  have := filterMap_zip_range (boxOverlaps [b.x0, b.y0, b.x1, b.y1]) none (partitionBounds parts)
  rwa [show (partitionBounds parts).length = parts.length from List.length_map _] at this

theorem mem_cxPartitions (b : Box) (parts : List Part) (i : Nat) :
    i ∈ cxPartitions b parts ↔ i < parts.length ∧ boxOverlaps (nbox b) (totalBounds (parts.getD i [])) = true := by
  rw [cxPartitions_eq_filter, List.mem_filter, List.mem_range]
  refine and_congr_right fun hi => ?_
  rw [partitionBounds, getD_map totalBounds [] hi]
  rfl

end SpVerif.Dask
