import SpVerif.Lemmas.Winding
/-! The winding number about rational points (DESIGN Appendix B).  `edgeQ` / `windQ` are the closed form of the coded edge rule read
at a rational point; at integer points they are the coded functions (`windQ_cast`).  Everything is read off the normal form
`edgeQ_eq`: an edge counts `gQ t b - gQ t a` when its point at height `t` is not to the left of the point.  The number is constant
on every box that misses a closed ring (`windQ_const_box`), jumps by the edge's direction across one edge (`windQ_jump`) and is
zero outside the bounding box (`windQ_far`). -/
namespace SpVerif.Geom

def edgeQ (p : QPt) (a b : Pt) : Int :=
  if (a.2 : ℚ) < p.2 ∧ p.2 ≤ b.2 ∧ 0 ≤ orientQ a b p then 1
  else if (b.2 : ℚ) < p.2 ∧ p.2 ≤ a.2 ∧ orientQ a b p ≤ 0 then -1 else 0

theorem edgeQ_cast (p a b : Pt) : edgeQ ((p.1 : ℚ), (p.2 : ℚ)) a b = edgeContrib p a b := by
  rw [edgeContrib_eq, edgeQ, ← orientI_cast]
  simp only [Int.cast_lt, Int.cast_le, Int.cast_nonneg_iff, Int.cast_nonpos]

def gQ (t : ℚ) (v : Pt) : Int := if t ≤ (v.2 : ℚ) then 1 else 0

/-- x-coordinate of the line through `a b` at height `t` (`a.1` for a horizontal edge, by `x / 0 = 0`) -/
noncomputable def xAt (a b : Pt) (t : ℚ) : ℚ := (a.1 : ℚ) + (t - a.2) / ((b.2 : ℚ) - a.2) * ((b.1 : ℚ) - a.1)

theorem onSeg_xAt_of_range (a b : Pt) (t : ℚ) (hne : (a.2 : ℚ) ≠ b.2) (hlo : min (a.2 : ℚ) b.2 ≤ t) (hhi : t ≤ max (a.2 : ℚ) b.2) :
    OnSeg a b (xAt a b t, t) := by
  obtain ⟨t0, t1, e⟩ := unit_div hne hlo hhi
  exact ⟨_, t0, t1, rfl, by rw [e]; ring⟩

theorem orientQ_xAt (a b : Pt) (x t : ℚ) (hne : (a.2 : ℚ) ≠ b.2) :
    orientQ a b (x, t) = ((b.2 : ℚ) - a.2) * (xAt a b t - x) := by
  have hD : ((b.2 : ℚ) - a.2) ≠ 0 := fun h => hne (by linarith)
  unfold orientQ xAt
  field_simp
  ring

theorem eq_xAt_of_onSeg {a b : Pt} {x t : ℚ} (h : OnSeg a b (x, t)) (hne : (a.2 : ℚ) ≠ b.2) : x = xAt a b t := by
  obtain ⟨s, -, -, ex, et⟩ := h
  have hD : (b.2 : ℚ) - a.2 ≠ 0 := sub_ne_zero.2 hne.symm
  simp only at ex et
  rw [ex, et, xAt, add_sub_cancel_left, mul_div_cancel_right₀ _ hD]

theorem xAt_swap (a b : Pt) (t : ℚ) (h : (a.2 : ℚ) ≠ b.2) : xAt b a t = xAt a b t := by
  have h1 : (b.2 : ℚ) - a.2 ≠ 0 := sub_ne_zero.2 h.symm
  have h2 : (a.2 : ℚ) - b.2 ≠ 0 := sub_ne_zero.2 h
  unfold xAt; field_simp; ring

/-- **normal form of the edge rule**: the first factor is `±1` when `t` is in the edge's half-open band, else `0` (for a
horizontal edge it is `0`) -/
theorem edgeQ_eq (a b : Pt) (x t : ℚ) :
    edgeQ (x, t) a b = (gQ t b - gQ t a) * (if x ≤ xAt a b t then 1 else 0) := by
  unfold edgeQ gQ
  simp only [← not_le (a := t)]
  -- where `gQ` differs at the two ends the edge is not horizontal, and the sign of `orientQ` says on which side `xAt` is
  by_cases hA : t ≤ (a.2 : ℚ) <;> by_cases hB : t ≤ (b.2 : ℚ)
  · simp [hA, hB]
  · have hlt : (b.2 : ℚ) < a.2 := (not_le.1 hB).trans_le hA
    have side : orientQ a b (x, t) ≤ 0 ↔ x ≤ xAt a b t := by
      rw [← neg_nonneg, orientQ_xAt a b x t hlt.ne', ← neg_mul, neg_sub, mul_nonneg_iff_of_pos_left (sub_pos.2 hlt), sub_nonneg]
    simp [hA, hB, side]
  · have hlt : (a.2 : ℚ) < b.2 := (not_le.1 hA).trans_le hB
    have side : 0 ≤ orientQ a b (x, t) ↔ x ≤ xAt a b t := by
      rw [orientQ_xAt a b x t hlt.ne, mul_nonneg_iff_of_pos_left (sub_pos.2 hlt), sub_nonneg]
    simp [hA, hB, side]
  · simp [hA, hB]

theorem gQ_ne_iff (t : ℚ) (a b : Pt) :
    gQ t b - gQ t a ≠ 0 ↔ min (a.2 : ℚ) b.2 < t ∧ t ≤ max (a.2 : ℚ) b.2 := by
  unfold gQ
  rw [min_lt_iff, le_max_iff]
  by_cases h1 : t ≤ (a.2 : ℚ) <;> by_cases h2 : t ≤ (b.2 : ℚ) <;> simp [h1, h2, not_lt.2, not_le.1]

theorem onSeg_xAt {a b : Pt} {t : ℚ} (h : gQ t b - gQ t a ≠ 0) : OnSeg a b (xAt a b t, t) := by
  obtain ⟨h1, h2⟩ := (gQ_ne_iff t a b).1 h
  refine onSeg_xAt_of_range a b t (fun e => ?_) h1.le h2
  rw [e, min_self] at h1; rw [e, max_self] at h2
  exact absurd h2 (not_le.2 h1)

/-- the side factor matters only where the edge's band holds `t`, and there the edge has the point `(xAt a b t, t)` -/
theorem edgeQ_eq_of {a b : Pt} {x t : ℚ} {S : Int}
    (h : OnSeg a b (xAt a b t, t) → (if x ≤ xAt a b t then 1 else 0) = S) : edgeQ (x, t) a b = (gQ t b - gQ t a) * S := by
  rw [edgeQ_eq]
  exact mul_eq_mul_left_iff.mpr (or_iff_not_imp_right.mpr fun hg => h (onSeg_xAt hg))

theorem edgeQ_swap (p : QPt) (a b : Pt) : edgeQ p b a = - edgeQ p a b := by
  obtain ⟨x, t⟩ := p
  rw [edgeQ_eq, edgeQ_eq]
  by_cases h : (a.2 : ℚ) = b.2
  · simp [gQ, h]
  · rw [xAt_swap a b t h]; ring

theorem edgeContrib_swap (p a b : Pt) : edgeContrib p b a = - edgeContrib p a b := by
  rw [← edgeQ_cast, ← edgeQ_cast, edgeQ_swap]

theorem edgeContrib_ne_zero_iff (p a b : Pt) :
    edgeContrib p a b ≠ 0 ↔ (min a.2 b.2 < p.2 ∧ p.2 ≤ max a.2 b.2) ∧ ∃ x : ℚ, (p.1 : ℚ) ≤ x ∧ OnSeg a b (x, (p.2 : ℚ)) := by
  have hband := gQ_ne_iff p.2 a b
  rw [← Int.cast_min, ← Int.cast_max, Int.cast_lt, Int.cast_le] at hband
  rw [← edgeQ_cast, edgeQ_eq, mul_ne_zero_iff, hband, and_congr_right_iff]
  intro hb
  have hg := hband.2 hb
  constructor
  · intro h
    exact ⟨_, le_of_not_gt fun h' => h (if_neg (not_le.2 h')), onSeg_xAt hg⟩
  · rintro ⟨x, hx, on⟩
    have hne : (a.2 : ℚ) ≠ b.2 := fun e => hg (by simp [gQ, e])
    rw [if_pos (hx.trans_eq (eq_xAt_of_onSeg on hne))]
    exact one_ne_zero

def windQ (p : QPt) : List Pt → Int
  | a :: b :: rest => edgeQ p a b + windQ p (b :: rest)
  | _ => 0

theorem windQ_eq (p : QPt) (r : List Pt) : windQ p r = segSum (edgeQ p) r :=
  eq_segSum rfl (fun _ => rfl) (fun _ _ _ => rfl) r

theorem windQ_cast (p : Pt) (r : List Pt) : windQ ((p.1 : ℚ), (p.2 : ℚ)) r = windSum p r := by
  rw [windQ_eq, windSum_eq]
  exact segSum_congr fun s _ => edgeQ_cast p s.1 s.2

theorem windQ_reverse (p : QPt) (r : List Pt) : windQ p r.reverse = - windQ p r := by
  rw [windQ_eq, windQ_eq, segSum_reverse (edgeQ_swap p)]

theorem windSum_reverse (p : Pt) (r : List Pt) : windSum p r.reverse = - windSum p r := by
  rw [windSum_eq, windSum_eq, segSum_reverse (edgeContrib_swap p)]

theorem ringWinding_reverse (p : Pt) (r : List Pt) : ringWinding p r.reverse = - ringWinding p r := by
  rw [ringWinding_eq, ringWinding_eq, windSum_reverse]

def SlabClear (a b : Pt) (x h h' : ℚ) : Prop := ∀ q : QPt, OnSeg a b q → q.1 = x → ¬ (h ≤ q.2 ∧ q.2 ≤ h')

/-- an edge that misses a vertical segment lies on one side of it inside the slab: between a point to the left and a point not to
the left the edge has a point on the line, and that point is in the slab too -/
theorem slab_side {a b : Pt} {x h h' : ℚ} (hc : SlabClear a b x h h') :
    ∃ S : Int, ∀ q : QPt, OnSeg a b q → h ≤ q.2 ∧ q.2 ≤ h' → (if x ≤ q.1 then 1 else 0) = S := by
  by_cases hex : ∃ q0 : QPt, OnSeg a b q0 ∧ (h ≤ q0.2 ∧ q0.2 ≤ h') ∧ x ≤ q0.1
  · obtain ⟨q0, o0, s0, hr⟩ := hex
    refine ⟨1, fun q o s => if_pos (le_of_not_gt fun hl => ?_)⟩
    obtain ⟨t, t0, t1, e⟩ := cross_level hl hr
    exact hc _ (onSeg_comb o o0 t0 t1) e (lerp_mem s s0 t0 t1)
  · exact ⟨0, fun q o s => if_neg fun hr => hex ⟨q, o, s, hr⟩⟩

/-- the potential whose difference along an edge is the change of the edge's contribution -/
def phiV (x h h' : ℚ) (v : Pt) : Int := (gQ h' v - gQ h v) * (if x ≤ (v.1 : ℚ) then 1 else 0)

theorem gQ_sub_ne {h h' : ℚ} {v : Pt} (hg : gQ h' v - gQ h v ≠ 0) (hhh : h ≤ h') : h ≤ (v.2 : ℚ) ∧ (v.2 : ℚ) ≤ h' := by
  unfold gQ at hg
  by_cases e1 : h' ≤ (v.2 : ℚ) <;> by_cases e2 : h ≤ (v.2 : ℚ) <;> simp only [e1, e2, if_true, if_false] at hg
  · exact absurd rfl hg
  · exact absurd (hhh.trans e1) e2
  · exact ⟨e2, (not_le.1 e1).le⟩
  · exact absurd rfl hg

theorem edge_vmove {a b : Pt} {x h h' : ℚ} (hhh : h ≤ h') (hc : SlabClear a b x h h') :
    edgeQ (x, h') a b - edgeQ (x, h) a b = phiV x h h' b - phiV x h h' a := by
  -- all four terms carry the same side factor `S`
  obtain ⟨S, hS⟩ := slab_side hc
  -- (the points are written out: left to unification against `xAt`, they are slow to find)
  have E : ∀ t, h ≤ t → t ≤ h' → edgeQ (x, t) a b = (gQ t b - gQ t a) * S :=
    fun t t1 t2 => edgeQ_eq_of fun on => hS (xAt a b t, t) on ⟨t1, t2⟩
  have P : ∀ v : Pt, OnSeg a b ((v.1 : ℚ), (v.2 : ℚ)) → phiV x h h' v = (gQ h' v - gQ h v) * S := by
    intro v on
    rw [phiV, mul_eq_mul_left_iff]
    exact or_iff_not_imp_right.mpr fun hg => hS ((v.1 : ℚ), (v.2 : ℚ)) on (gQ_sub_ne hg hhh)
  rw [E h' hhh le_rfl, E h le_rfl hhh, P b (onSeg_right a b), P a (onSeg_left a b)]
  ring

theorem windQ_vmove {r : List Pt} (hcl : Closed r) {x h h' : ℚ} (hhh : h ≤ h')
    (hc : ∀ s ∈ segs r, SlabClear s.1 s.2 x h h') : windQ (x, h') r = windQ (x, h) r := by
  rw [windQ_eq, windQ_eq, segSum_congr (g := fun a b => edgeQ (x, h) a b + (phiV x h h' b - phiV x h h' a))
      fun s hs => eq_add_of_sub_eq' (edge_vmove hhh (hc s hs)),
    segSum_add, segSum_closed (phiV x h h') hcl, add_zero]

def RowClear (a b : Pt) (x x' h : ℚ) : Prop := ∀ q : QPt, OnSeg a b q → q.2 = h → ¬ (x ≤ q.1 ∧ q.1 ≤ x')

theorem edge_hmove {a b : Pt} {x x' h : ℚ} (hxx : x ≤ x') (hc : RowClear a b x x' h) : edgeQ (x', h) a b = edgeQ (x, h) a b := by
  rw [edgeQ_eq a b x h]
  refine edgeQ_eq_of fun on => ?_
  have e : x' ≤ xAt a b h ↔ x ≤ xAt a b h := ⟨hxx.trans, fun h1 => le_of_not_ge fun h2 => hc _ on rfl ⟨h1, h2⟩⟩
  simp only [e]

/-- no closed ring needed: no edge's contribution changes -/
theorem windQ_hmove {r : List Pt} {x x' h : ℚ} (hxx : x ≤ x') (hc : ∀ s ∈ segs r, RowClear s.1 s.2 x x' h) :
    windQ (x', h) r = windQ (x, h) r := by
  rw [windQ_eq, windQ_eq]
  exact segSum_congr fun s hs => edge_hmove hxx (hc s hs)

def BoxClear (b : Box) (r : List Pt) : Prop := ∀ s ∈ segs r, ∀ q : QPt, OnSeg s.1 s.2 q → ¬ InBoxQ b q

theorem windQ_const_box {r : List Pt} (hcl : Closed r) {b : Box} (hclear : BoxClear b r) {q1 q2 : QPt}
    (h1 : InBoxQ b q1) (h2 : InBoxQ b q2) : windQ q1 r = windQ q2 r := by
  -- every point of the box is reached from the lower left corner along the lower side and then straight up, inside the box
  have corner : ∀ q : QPt, InBoxQ b q → windQ q r = windQ ((b.x0 : ℚ), (b.y0 : ℚ)) r := by
    rintro ⟨x, t⟩ ⟨a1, a2, a3, a4⟩
    rw [windQ_vmove hcl a3 fun s hs q on ex hy => hclear s hs q on ⟨ex ▸ a1, ex ▸ a2, hy.1, hy.2.trans a4⟩]
    exact windQ_hmove a1 fun s hs q on ey hx =>
      hclear s hs q on ⟨hx.1, hx.2.trans a2, ey ▸ le_rfl, ey ▸ a3.trans a4⟩
  rw [corner q1 h1, corner q2 h2]

theorem edge_jump {a b : Pt} {x x' h : ℚ} (hl : x < xAt a b h) (hr : xAt a b h < x') :
    edgeQ (x, h) a b - edgeQ (x', h) a b = gQ h b - gQ h a := by
  rw [edgeQ_eq, edgeQ_eq, if_pos hl.le, if_neg (not_le.2 hr)]; ring

theorem windQ_jump {l1 l2 : List Pt} {a b : Pt} {x x' h : ℚ} (hl : x < xAt a b h) (hr : xAt a b h < x')
    (hc1 : ∀ s ∈ segs (l1 ++ [a]), RowClear s.1 s.2 x x' h) (hc2 : ∀ s ∈ segs (b :: l2), RowClear s.1 s.2 x x' h) :
    windQ (x, h) (l1 ++ a :: b :: l2) - windQ (x', h) (l1 ++ a :: b :: l2) = gQ h b - gQ h a := by
  have hxx : x ≤ x' := (hl.trans hr).le
  have e1 := windQ_hmove hxx hc1
  have e2 := windQ_hmove hxx hc2
  have ej := edge_jump hl hr
  rw [windQ_eq, windQ_eq] at e1 e2
  simp only [windQ_eq, segSum_append _ l1 a (b :: l2), segSum_cons, e1, e2]
  omega

theorem edgeQ_far {bb : Box} {a b : Pt} (ha : BoxHas bb a) (hb : BoxHas bb b) {x t : ℚ} (hout : ¬ InBoxQ bb (x, t)) :
    edgeQ (x, t) a b = (gQ t b - gQ t a) * (if x < (bb.x0 : ℚ) then 1 else 0) := by
  refine edgeQ_eq_of fun on => ?_
  obtain ⟨h1, h2, h3, h4⟩ := onSeg_in_box ha hb on
  have e : x ≤ xAt a b t ↔ x < (bb.x0 : ℚ) :=
    ⟨fun h => lt_of_not_ge fun h0 => hout ⟨h0, h.trans h2, h3, h4⟩, fun h => (h.trans_le h1).le⟩
  simp only [e]

/-- outside the bounding box every edge counts `[left of the box]` times a difference that telescopes round the ring -/
theorem windQ_far {p : QPt} {r : List Pt} (hcl : Closed r) {bb : Box} (hbb : bboxOf r = some bb) (hout : ¬ InBoxQ bb p) :
    windQ p r = 0 := by
  have hall := bboxOf_has hbb
  rw [windQ_eq, segSum_congr (g := fun a b => (gQ p.2 b - gQ p.2 a) * if p.1 < (bb.x0 : ℚ) then 1 else 0)
      fun s hs => edgeQ_far (hall _ (mem_segs hs).1) (hall _ (mem_segs hs).2) hout,
    segSum_mul (fun a b => gQ p.2 b - gQ p.2 a), segSum_closed (gQ p.2) hcl, zero_mul]

theorem ringWinding_far {p : Pt} {r : List Pt} (hc : Closed r) {bb : Box} (hbb : bboxOf r = some bb) (hout : ¬ BoxHas bb p) :
    ringWinding p r = 0 := by
  rw [ringWinding_eq, ← windQ_cast]
  exact windQ_far hc hbb fun h => hout (inBoxQ_cast.mp h)

end SpVerif.Geom
