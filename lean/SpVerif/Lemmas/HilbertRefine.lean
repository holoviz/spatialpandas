import SpVerif.Lemmas.HilbertN
/-! C07, every dimension `n`: successive orders refine each other (`coordN_refine`).  Dropping the low bit of every word commutes
with every stage of the decoder: the transposition loses the last digit of the distance, the Gray decode and the steps at
bit `q + 1` become those at bit `q`, and the steps at bit 1 become steps at bit 0, which do nothing. -/
namespace SpVerif.Hilbert

/-- the cell of the next coarser grid -/
def shr (X : List Nat) : List Nat := X.map (· >>> 1)

theorem getD_shr (X : List Nat) (i : Nat) : (shr X).getD i 0 = X.getD i 0 >>> 1 := by
  simp only [shr, List.getD_eq_getElem?_getD, List.getElem?_map]
  cases X[i]? <;> rfl

theorem length_shr (X : List Nat) : (shr X).length = X.length := List.length_map _

theorem step_shr (q i : Nat) (X : List Nat) : shr (step (q + 1) i X) = step q i (shr X) := by
  have hb : ∀ x : Nat, (x >>> 1).testBit q = x.testBit (q + 1) := fun x => by
    rw [Nat.testBit_shiftRight, Nat.add_comm]
  match X, i with
  | [], _ => simp [step, shr]
  | a :: Xs, 0 =>
    rw [step_cons_zero, show shr (a :: Xs) = (a >>> 1) :: shr Xs from rfl, step_cons_zero, hb]
    split <;> simp only [shr, List.map_cons, Nat.shiftRight_xor_distrib, mask_shr]
  | a :: Xs, j + 1 =>
    rw [step_cons_succ, show shr (a :: Xs) = (a >>> 1) :: shr Xs from rfl, step_cons_succ, getD_shr, hb]
    split <;> simp only [shr, List.map_cons, List.map_set, Nat.shiftRight_xor_distrib, Nat.shiftRight_and_distrib, mask_shr]

theorem step_bit_zero (i : Nat) (X : List Nat) : step 0 i X = X := by
  simp only [step, Nat.pow_zero, Nat.sub_self, Nat.xor_zero, Nat.and_zero, Lists.set_getD_self]
  split <;> rfl

theorem foldl_step_shr (q : Nat) (is : List Nat) (X : List Nat) :
    shr (is.foldl (fun Z i => step (q + 1) i Z) X) = is.foldl (fun Z i => step q i Z) (shr X) :=
  (List.foldl_hom shr fun Z i => (step_shr q i Z).symm).symm

theorem undoLoopN_shr (n p : Nat) (X : List Nat) : shr (undoLoopN n (p + 1) X) = undoLoopN n p (shr X) := by
  induction p, X using undoLoopN.induct n with
  | case1 X => rfl
  | case2 X =>
    -- the order-2 loop runs the steps at bit 1, which without the low bits are steps at bit 0
    show shr ((List.range n).reverse.foldl (fun Z i => step (0 + 1) i Z) X) = shr X
    rw [foldl_step_shr]
    exact Lists.foldl_fixed fun i _ => step_bit_zero i (shr X)
  | case3 p X ih => rw [undoLoopN, foldl_step_shr, ih, undoLoopN]

theorem adjXor_shr (a : Nat) (X : List Nat) : shr (adjXor a X) = adjXor (a >>> 1) (shr X) := by
  induction X generalizing a with
  | nil => rfl
  | cons x xs ih =>
    rw [adjXor, show shr ((x ^^^ a) :: adjXor x xs) = ((x ^^^ a) >>> 1) :: shr (adjXor x xs) from rfl, ih,
      Nat.shiftRight_xor_distrib]
    rfl

theorem grayDecodeN_shr (X : List Nat) : shr (grayDecodeN X) = grayDecodeN (shr X) := by
  rw [grayDecodeN_eq, grayDecodeN_eq, adjXor_shr, length_shr, getD_shr]

theorem toTranspose_shr (p n h : Nat) : shr (toTranspose (p + 1) n h) = toTranspose p n (h >>> n) := by
  simp only [shr, toTranspose, List.map_map]
  apply List.map_congr_left
  intro i _
  simp only [Function.comp, transposeWord_succ, Nat.shiftRight_eq_div_pow]
  split <;> omega

theorem coordN_refine (p n h : Nat) : (coordN (p + 1) n h).map (· >>> 1) = coordN p n (h >>> n) := by
  rw [coordN, coordN, ← toTranspose_shr, ← grayDecodeN_shr, ← undoLoopN_shr]
  rfl

end SpVerif.Hilbert
