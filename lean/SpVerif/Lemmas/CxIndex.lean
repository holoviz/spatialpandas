import SpVerif.Lemmas.DaskFacts
import Mathlib.Data.List.Sort
/-! C04: `_get_bounds` as (min, max); `np.sort`; the rows the indexed path of `.cx` collects are, up to order, the rows the mask path
selects (`cx_candidates_perm`). -/
namespace SpVerif.Frames
open SpVerif.Geom SpVerif.RTree SpVerif.Dask

theorem getBounds_eq (a b c d : Option Int) (t : Box) :
    getBounds a b c d t = ⟨min (a.getD t.x0) (b.getD t.x1), min (c.getD t.y0) (d.getD t.y1),
      max (a.getD t.x0) (b.getD t.x1), max (c.getD t.y0) (d.getD t.y1)⟩ := by
  simp only [getBounds, swap_ends]

theorem validRows_eq (els : List (Option Elem)) :
    validRows els = (List.range els.length).filterMap (fun i => (elemBounds (els.getD i none)).map (fun bb => (i, bb))) :=
  Lists.filterMap_zip_range' (fun i e => (elemBounds e).map (fun bb => (i, bb))) none els

theorem mem_validRows (els : List (Option Elem)) (r : Row) :
    r ∈ validRows els ↔ r.1 < els.length ∧ elemBounds (els.getD r.1 none) = some r.2 := by
  rw [validRows_eq, List.mem_filterMap]
  constructor
  · rintro ⟨i, hi, h⟩
    obtain ⟨bb, hb, rfl⟩ := Option.map_eq_some_iff.mp h
    exact ⟨List.mem_range.mp hi, hb⟩
  · rintro ⟨hi, hb⟩
    exact ⟨r.1, List.mem_range.mpr hi, by rw [hb]; rfl⟩

theorem cxMask_eq_filter (b : Box) (els : List (Option Elem)) :
    cxMask b els = (List.range els.length).filter (fun i => elemIB b (els.getD i none)) :=
  Lists.filterMap_zip_range (elemIB b) none els

theorem insertSorted_eq (x : Nat) (l : List Nat) : insertSorted x l = l.orderedInsert (· ≤ ·) x := by
  induction l with
  | nil => rfl
  | cons y ys ih => simp only [insertSorted, List.orderedInsert_cons, ih]

theorem sortNat_eq (l : List Nat) : sortNat l = l.insertionSort (· ≤ ·) :=
  -- both are `foldr` of the insertion
  congrArg (List.foldr · [] l) (funext₂ insertSorted_eq)

theorem sortNat_perm (l : List Nat) : (sortNat l).Perm l := sortNat_eq l ▸ List.perm_insertionSort _ l

theorem sortNat_sorted (l : List Nat) : (sortNat l).Pairwise (· ≤ ·) := sortNat_eq l ▸ List.pairwise_insertionSort _ l

/-- covered ⇒ the element intersects (the projection shortcut of the kernels, which needs a box of positive width and height) ⇒ not
pruned -/
theorem validRow_tests (b : Box) (hx : b.x0 < b.x1) (hy : b.y0 < b.y1) (els : List (Option Elem)) (r : Row) (hr : r ∈ validRows els) :
    (inside 2 (nbox b) r.2 = true → elemIB b (els.getD r.1 none) = true) ∧
    (elemIB b (els.getD r.1 none) = true → outside 2 (nbox b) r.2 = false) := by
  have hor : orientBox b = b := orientBox_of_le hx.le hy.le
  obtain ⟨_, hb⟩ := (mem_validRows els r).mp hr
  cases he : els.getD r.1 none with
  | none => rw [he] at hb; cases hb
  | some e =>
    rw [he] at hb
    simp only [elemBounds, Option.map_eq_some_iff] at hb
    obtain ⟨bb, hbb, hr2⟩ := hb
    rw [← hr2]
    constructor
    · intro hins
      exact elemIB_of_inside hbb (by rw [hor]; exact zeroAreaBox_false hx hy) (by rw [hor]; exact (inside_nbox b bb).mp hins)
    · intro hi
      obtain ⟨bb', hbb', hout⟩ := elemIB_overlaps hi
      have hbb'' : bb' = bb := Option.some.inj (hbb'.symm.trans hbb)
      rw [hor, hbb''] at hout
      exact (outside_nbox b bb).trans hout

theorem elemIB_of_bounds_none {b : Box} {o : Option Elem} (h : elemBounds o = none) : elemIB b o = false := by
  cases o with
  | none => rfl
  | some e =>
    refine Bool.eq_false_iff.mpr fun hi => ?_
    obtain ⟨bb, hbb, _⟩ := elemIB_overlaps hi
    rw [elemBounds_eq hbb] at h
    cases h

theorem cxMask_eq_validRows (b : Box) (els : List (Option Elem)) :
    cxMask b els = ((validRows els).filter (fun r => elemIB b (els.getD r.1 none))).map (·.1) := by
  rw [cxMask_eq_filter, validRows_eq, List.filter_filterMap, List.map_filterMap, ← List.filterMap_eq_filter]
  refine List.filterMap_congr fun i _ => ?_
  cases hB : elemBounds (els.getD i none) with
  | none => rw [Option.guard_apply, elemIB_of_bounds_none hB]; rfl
  | some bb =>
    rw [Option.guard_apply, Option.map_some, Option.filter_some]
    cases elemIB b (els.getD i none) <;> rfl

theorem cx_candidates_perm (t : PTree) (b : Box) (els : List (Option Elem))
    (hrows : t.rows.Perm (validRows els)) (hx : b.x0 < b.x1) (hy : b.y0 < b.y1) :
    ((coversOverlaps 2 t (nbox b)).1 ++
      (coversOverlaps 2 t (nbox b)).2.filter (fun i => elemIB b (els.getD i none))).Perm (cxMask b els) := by
  have ht := fun r hr => validRow_tests b hx hy els r (hrows.subset hr)
  rw [cxMask_eq_validRows]
  exact (coversOverlaps_test 2 t (nbox b) _ (fun r hr => (ht r hr).1) fun r hr => (ht r hr).2).trans ((hrows.filter _).map _)

end SpVerif.Frames
