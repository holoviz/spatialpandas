import SpVerif.Generated.ParKernels
import SpVerif.Lemmas.PackProto
/-!
# C18 — results do not depend on scheduling, thread count or concurrent use

The logic half: the loops of the kernels compiled with `parallel=True` (a table regenerated from the source on every run) have
pairwise disjoint write sets, and disjoint writes commute; the check-then-build cache gives every reader the same value; the
renumbering moves of pack_partitions_to_parquet do not commute (negative witness: they must run in the coded order), while its
concatenation tasks, which Dask runs in any order, leave the same dataset whatever that order is.
Memory-model effects, GIL release points and the Dask scheduler are outside any model here.
-/
namespace SpVerif
open Generated PackFS

/-- every parallel loop found in the source only stores to `result[<loop variable>]` and has no reduction variable -/
theorem C18_kernels_race_free :
    ∀ l ∈ parLoops, l.reductions = [] ∧ ∀ s ∈ l.stores, s.1 = "result" ∧ s.2 = true := by decide

def write (a : List Int) (w : Nat × Int) : List Int := a.set w.1 w.2

theorem write_comm (a : List Int) (w₁ w₂ : Nat × Int) (h : w₁.1 ≠ w₂.1) :
    write (write a w₁) w₂ = write (write a w₂) w₁ := by
  unfold write
  exact List.set_comm _ _ h

/-- disjoint writes commute: iterations that write pairwise different indices produce the same array in every order
(every interleaving of atomic writes is a permutation of the write list) -/
theorem C18_disjoint_writes_commute (a : List Int) (ws ws' : List (Nat × Int)) (hp : ws.Perm ws')
    (hd : ws.Pairwise (fun x y => x.1 ≠ y.1)) : ws.foldl write a = ws'.foldl write a := by
  -- any two writes of the list are the same write or go to different indices
  exact hp.foldl_eq' (fun x hx y hy z => (Lists.eq_or_key_ne hd x hx y hy).elim (fun h => h ▸ rfl) (write_comm z x y)) a

/-- a check-then-build cache: a thread that finds the cell empty builds and stores; the builder is a function of immutable
data.  Whatever the interleaving (any sequence of "store" events by any threads), the cell never holds anything but `build data` -/
theorem C18_cache_benign {D V : Type} (build : D → V) (data : D) (stores : List Unit) (cell : Option V)
    (hcell : cell = none ∨ cell = some (build data)) :
    let final := stores.foldl (fun c _ => some (build data)) cell
    final = none ∨ final = some (build data) :=
  Lists.foldl_inv (fun c => c = none ∨ c = some (build data)) (fun _ _ _ _ => .inr rfl) hcell

/-- the renumbering moves are order dependent: run in another order they lose a part (so they must not be independent tasks) -/
theorem C18_moves_do_not_commute :
    ¬ (compactIn (moves [0, 2, 3]).reverse [0, 2, 3]).Perm (compact [0, 2, 3]) := by decide

/-- the concatenation tasks may run in any order: two schedules of the per-partition concatenation tasks of
`pack_partitions_to_parquet` end with the same tree and the same part files (as a set); that the tree is clean is `C10_final_tree` -/
theorem C18_concat_tasks_order_irrelevant (m : PackProto.Mode) (overwrite : Bool) (n nIn : Nat) (cells : Nat → Nat → Bool)
    (o₁ o₂ : List Nat) (h₁ : o₁.Perm (List.range n)) (h₂ : o₂.Perm (List.range n)) (t₀ : PackProto.Tree)
    (h0 : overwrite = true ∨ t₀ = PackProto.empty) (hext : t₀.tmpDirs = [] ∧ t₀.subs = [] ∧ t₀.uuidDir = false) :
    let a := PackProto.run m overwrite n nIn cells o₁ t₀
    let b := PackProto.run m overwrite n nIn cells o₂ t₀
    a.placeholders = b.placeholders ∧ a.tmpDirs = b.tmpDirs ∧ a.subs = b.subs ∧ a.uuidDir = b.uuidDir ∧ a.metaF = b.metaF ∧
      a.cmetaF = b.cmetaF ∧ a.stale = b.stale ∧ a.files.Perm b.files :=
  -- holds from any start tree (`h0`, `hext` are not used) and for any two orders that are permutations of each other
  PackProto.run_order_irrelevant m overwrite n nIn cells o₁ o₂ (h₁.trans h₂.symm) t₀

end SpVerif
