import SpVerif.Model.HilbertDist
import SpVerif.Props.C07
/-!
# C08 — a geometry's Hilbert distance is the curve position of its bbox centre

Theorems about the exact-arithmetic reference `HilbertDist` (`hilbert_distance` → `_distances_from_bounds` → `_data2coord`).
The float computation agrees with this reference where its arithmetic is exact (DESIGN Part II §2) — compared on every run.
-/
namespace SpVerif
open HilbertDist Hilbert

/-- `_data2coord` always lands on the grid, whatever the value and the extent (the clip) -/
theorem C08_coord_in_grid (v2 lo width n : Int) (hn : 0 < n) :
    0 ≤ data2coord v2 lo width n ∧ data2coord v2 lo width n ≤ n - 1 := by
  unfold data2coord
  simp only
  split
  · omega
  · split <;> omega

/-- range: the Hilbert distance lies in `[0, 4^p)` for every element, extent and order -/
theorem C08_range (total box : Int × Int × Int × Int) (p : Nat) : hilbertDistance total p box < 4 ^ p :=
  (C07_range p).2 _

/-- a zero-width (or zero-height) extent is widened so that the scaling is defined -/
theorem C08_degenerate_extent (lo hi : Int) : (widen lo hi).1 < (widen lo hi).2 ∨ hi < lo := by
  unfold widen
  split
  · left; simp only; omega
  · simp only; omega

/-- reference cell: for an extent of positive width `w` and a centre `c` (given doubled, `v2 = 2c`) inside `[lo, lo + w)`,
the cell index `k` satisfies `lo + k·w/n ≤ c < lo + (k+1)·w/n` — the cell contains the centre -/
theorem C08_reference_cell (v2 lo w n : Int) (hw : 0 < w) (hn : 0 < n) (h0 : 2 * lo ≤ v2) (h1 : v2 < 2 * (lo + w)) :
    let k := data2coord v2 lo w n
    k * (2 * w) ≤ (v2 - 2 * lo) * n ∧ (v2 - 2 * lo) * n < (k + 1) * (2 * w) := by
  have hx : 0 ≤ (v2 - 2 * lo) * n := Int.mul_nonneg (by omega) (by omega)
  -- the truncated quotient `q` of `x = (v2 - 2 lo) n` by `2 w` has `q (2 w) ≤ x < (q + 1) (2 w)`; as `x < n (2 w)`, `q < n`: no clipping
  have hlo : ((v2 - 2 * lo) * n).tdiv (2 * w) * (2 * w) ≤ (v2 - 2 * lo) * n := by
    rw [Int.mul_comm]; exact Int.mul_tdiv_self_le hx
  have hlt : (v2 - 2 * lo) * n < n * (2 * w) := by
    rw [Int.mul_comm n]; exact Int.mul_lt_mul_of_pos_right (by omega) hn
  have hk := Int.lt_of_mul_lt_mul_right (Int.lt_of_le_of_lt hlo hlt) (by omega)
  have hk0 := Int.tdiv_nonneg hx (show 0 ≤ 2 * w by omega)
  simp only [data2coord]
  rw [if_neg (by omega), if_neg (by omega)]
  exact ⟨hlo, Int.lt_tdiv_add_one_mul_self _ (by omega)⟩

/-- centres on the upper edge of the extent belong to the last cell, centres beyond it too; centres at or below the lower edge
to the first cell -/
theorem C08_clamped (v2 lo w n : Int) (hw : 0 < w) (hn : 0 < n) :
    (2 * (lo + w) ≤ v2 → data2coord v2 lo w n = n - 1) ∧ (v2 ≤ 2 * lo → data2coord v2 lo w n = 0) := by
  have hb : 0 < 2 * w := by omega
  constructor
  · intro h
    have : n ≤ ((v2 - 2 * lo) * n).tdiv (2 * w) := by
      apply Int.le_tdiv_of_mul_le hb
      rw [Int.mul_comm]; exact Int.mul_le_mul_of_nonneg_right (by omega) (by omega)
    simp only [data2coord]
    rw [if_neg (by omega), if_pos (by omega)]
  · intro h
    have := Int.tdiv_le_tdiv hb (Int.mul_nonpos_of_nonpos_of_nonneg (show v2 - 2 * lo ≤ 0 by omega) (Int.le_of_lt hn))
    rw [Int.zero_tdiv] at this
    simp only [data2coord]
    split
    · rfl
    · rw [if_neg (by omega)]; omega

/-- the value depends only on the element's own bounding box and on `(total_bounds, p)`: the array form is the element-wise map -/
theorem C08_elementwise (total : Int × Int × Int × Int) (p : Nat) (boxes : List (Int × Int × Int × Int)) (i : Nat) (h : i < boxes.length) :
    (boxes.map (hilbertDistance total p))[i]'(by simpa using h) = hilbertDistance total p boxes[i] := by
  simp

/-! non-vacuity: a 4 x 4 grid on the extent [0,4]²: the centre (2,2) lies in cell (2,2), the corner (4,4) in the last cell -/
example : cellOf (0, 0, 4, 4) 2 (1, 1, 3, 3) = (2, 2) ∧ cellOf (0, 0, 4, 4) 2 (4, 4, 4, 4) = (3, 3) ∧
    hilbertDistance (0, 0, 4, 4) 2 (1, 1, 3, 3) = 8 := by decide

end SpVerif
