import SpVerif.Model.Select
import SpVerif.Lemmas.Arrow
/-!
# C16 — derived arrays hold the same elements and behave like fresh ones

Two layers are modelled.  Requests (`Model/Select.lean`): which source positions `take` / `arr[i]` select and which error they
raise.  Buffers (`Model/Arrow.lean`): a geometry array is a window (`off`, `len`) on shared Arrow buffers and a slice only moves
the window; what `_ListArrayBufferMixin` hands to the numba kernels for element `i` of any window (`buffer_values` cut at
`buffer_outer_offsets[i]`, `[i+1]`) is exactly the values of element `i`, however the buffers are laid out, so every per-element
quantity computed from those inputs depends on the element only.  Hypotheses: the window lies inside the first offsets buffer
(`hwf`) and offsets do not decrease (`MonoOn`), both guaranteed by the Arrow format; the correspondence check feeds the model the
raw buffers of real derived arrays and compares all five outputs.  The deeper pandas / pyarrow machinery (`pa.concat_arrays`,
`take`, pickling) is not modelled: for those steps the tie is the differential check only.
-/
namespace SpVerif
open Select Arrow

theorem takeSpec_cases (n : Nat) (fill : Bool) (idx : List Int) :
    let A := n = 0 ∧ idx ≠ [] ∧ (fill = false ∨ ∃ i ∈ idx, i ≥ 0)
    let B := ∃ i ∈ idx, i ≥ (n : Int) ∨ (fill = false ∧ i < -(n : Int))
    let C := fill = true ∧ ∃ i ∈ idx, i < -1
    ((A ∨ B) ∧ takeSpec n fill idx = .error .indexError) ∨
    (¬(A ∨ B) ∧ C ∧ takeSpec n fill idx = .error .valueError) ∨
    (¬(A ∨ B) ∧ ¬C ∧ takeSpec n fill idx =
      .ok (idx.map (fun i => if i < 0 then (if fill then none else some (i + (n : Int)).toNat) else some i.toNat))) := by
  intro A B C
  have e : takeSpec n fill idx = if A then .error .indexError else if B then .error .indexError else if C then .error .valueError
      else .ok (idx.map (fun i => if i < 0 then (if fill then none else some (i + (n : Int)).toNat) else some i.toNat)) := by
    unfold takeSpec
    cases fill <;> simp [A, B, C]
  by_cases hA : A
  · exact .inl ⟨.inl hA, by rw [e, if_pos hA]⟩
  by_cases hB : B
  · exact .inl ⟨.inr hB, by rw [e, if_neg hA, if_pos hB]⟩
  have hAB : ¬(A ∨ B) := fun h => h.elim hA hB
  by_cases hC : C
  · exact .inr (.inl ⟨hAB, hC, by rw [e, if_neg hA, if_neg hB, if_pos hC]⟩)
  · exact .inr (.inr ⟨hAB, hC, by rw [e, if_neg hA, if_neg hB, if_neg hC]⟩)

/-- a successful `take` selects, slot by slot: position `i` for `i ≥ 0`; with `allow_fill` a missing element for `-1`; without
it position `n + i` for negative `i` — and every selected position exists -/
theorem C16_take_slots (n : Nat) (fill : Bool) (idx : List Int) (ps : List (Option Nat))
    (h : takeSpec n fill idx = .ok ps) :
    ps = idx.map (fun i => if i < 0 then (if fill then none else some (i + (n : Int)).toNat) else some i.toNat) ∧
    ∀ p ∈ ps, ∀ k, p = some k → k < n := by
  rcases takeSpec_cases n fill idx with ⟨_, e⟩ | ⟨_, _, e⟩ | ⟨hAB, hC, e⟩ <;> rw [e] at h <;> cases h
  refine ⟨rfl, fun p hp k hk => ?_⟩
  obtain ⟨i, hi, rfl⟩ := List.mem_map.mp hp
  have h1 : i < n := Int.not_le.mp fun hc => hAB (.inr ⟨i, hi, .inl hc⟩)
  cases fill
  · have h2 : -(n : Int) ≤ i := Int.not_lt.mp fun hc => hAB (.inr ⟨i, hi, .inr ⟨rfl, hc⟩⟩)
    split at hk <;> cases hk <;> omega
  · split at hk <;> cases hk; omega

/-- a successful `take` returns one slot per requested index -/
theorem C16_take_length (n : Nat) (fill : Bool) (idx : List Int) (ps : List (Option Nat))
    (h : takeSpec n fill idx = .ok ps) : ps.length = idx.length := by
  rw [(C16_take_slots n fill idx ps h).1, List.length_map]

/-- `take` raises `IndexError` exactly for a non-empty take from an empty array (without `allow_fill`, or with an index `≥ 0`)
or an index `≥ n`, or `< -n` without `allow_fill`; it raises `ValueError` only with `allow_fill` and an index below `-1`
(an `IndexError` takes precedence, so this direction is not an iff) -/
theorem C16_take_errors (n : Nat) (fill : Bool) (idx : List Int) :
    (takeSpec n fill idx = .error .indexError ↔
      (n = 0 ∧ idx ≠ [] ∧ (fill = false ∨ ∃ i ∈ idx, i ≥ 0)) ∨ ∃ i ∈ idx, i ≥ (n : Int) ∨ (fill = false ∧ i < -(n : Int))) ∧
    (takeSpec n fill idx = .error .valueError →
      fill = true ∧ ∃ i ∈ idx, i < -1) := by
  rcases takeSpec_cases n fill idx with ⟨h, e⟩ | ⟨h, hC, e⟩ | ⟨h, _, e⟩ <;> rw [e]
  · exact ⟨⟨fun _ => h, fun _ => rfl⟩, nofun⟩
  · exact ⟨⟨nofun, fun h' => (h h').elim⟩, fun _ => hC⟩
  · exact ⟨⟨nofun, fun h' => (h h').elim⟩, nofun⟩

/-- `arr[i]` for an integer: position `i`, or `n + i` for a negative `i`; `IndexError` outside `[-n, n)` -/
theorem C16_getitem (n : Nat) (i : Int) :
    (getItemSpec n i = .error .indexError ↔ (i < -(n : Int) ∨ i ≥ (n : Int))) ∧
    ∀ k, getItemSpec n i = .ok k → k < n ∧ ((k : Int) = i ∨ (k : Int) = i + n) := by
  unfold getItemSpec
  split
  · next h => exact ⟨⟨fun _ => h, fun _ => rfl⟩, nofun⟩
  · next h =>
    refine ⟨⟨nofun, fun h' => (h h').elim⟩, fun k hk => ?_⟩
    cases hk
    split <;> omega

/-- slicing a slice is slicing once: windows compose by adding their starts -/
theorem C16_slice_of_slice (v : View) (a n b m : Nat) : (v.slice a n).slice b m = v.slice (a + b) m := by
  simp [View.slice, Nat.add_assoc]

/-- the elements of a slice are the slice of the elements (missing stays missing, order kept) — depth 1 (multipoint,
line, ring), depth 2 (multiline, polygon), depth 3 (multipolygon) -/
theorem C16_slice_elements (v : View) (s n : Nat) (h : s + n ≤ v.len) :
    elems1 (v.slice s n) = sl (elems1 v) s (s + n) ∧ elems2 (v.slice s n) = sl (elems2 v) s (s + n) ∧
    elems3 (v.slice s n) = sl (elems3 v) s (s + n) :=
  ⟨elems1_slice v s n h, elems2_slice v s n h, elems3_slice v s n h⟩

/-- what a kernel reads for element `i` is element `i` (depth 1): `buffer_values[outer[i] : outer[i+1]]` is the element stored
at position `off + i` -/
theorem C16_kernel_input1 (v : View) (o0 : List Nat) (ho : v.offs = [o0]) (hwf : v.off + v.len + 1 ≤ o0.length)
    (i : Nat) (hi : i < v.len) :
    sl v.vals (rd (outerOffsets v) i) (rd (outerOffsets v) (i + 1)) = elem1 v.vals (rd o0 (v.off + i)) (rd o0 (v.off + i + 1)) :=
  kernel_run ho hwf hi

/-- depth 2: the values of all lines / rings of element `i`, in order -/
theorem C16_kernel_input2 (v : View) (o0 o1 : List Nat) (ho : v.offs = [o0, o1]) (hwf : v.off + v.len + 1 ≤ o0.length)
    (hm0 : MonoOn (rd o0) v.off (v.off + v.len)) (hm1 : MonoOn (rd o1) (rd o0 v.off) (rd o0 (v.off + v.len)))
    (i : Nat) (hi : i < v.len) :
    sl v.vals (rd (outerOffsets v) i) (rd (outerOffsets v) (i + 1)) =
      (elem2 v.vals o1 (rd o0 (v.off + i)) (rd o0 (v.off + i + 1))).flatten := by
  obtain ⟨h1, h2, h3⟩ := hm0.child (Nat.le_add_right _ i) (Nat.add_lt_add_left hi _)
  rw [kernel_run ho hwf hi]
  exact (flat2 v.vals hm1 h1 h2 h3).symm

/-- depth 3: the values of all rings of all parts of element `i`, in order -/
theorem C16_kernel_input3 (v : View) (o0 o1 o2 : List Nat) (ho : v.offs = [o0, o1, o2]) (hwf : v.off + v.len + 1 ≤ o0.length)
    (hm0 : MonoOn (rd o0) v.off (v.off + v.len)) (hm1 : MonoOn (rd o1) (rd o0 v.off) (rd o0 (v.off + v.len)))
    (hm2 : MonoOn (rd o2) (rd o1 (rd o0 v.off)) (rd o1 (rd o0 (v.off + v.len))))
    (i : Nat) (hi : i < v.len) :
    sl v.vals (rd (outerOffsets v) i) (rd (outerOffsets v) (i + 1)) =
      ((elem3 v.vals o1 o2 (rd o0 (v.off + i)) (rd o0 (v.off + i + 1))).map List.flatten).flatten := by
  obtain ⟨h1, h2, h3⟩ := hm0.child (Nat.le_add_right _ i) (Nat.add_lt_add_left hi _)
  rw [kernel_run ho hwf hi]
  exact (flat3 v.vals hm1 hm2 h1 h2 h3).symm

/-- results depend only on element values, never on buffer offsets: if element `i` of one window and element `j` of
another (other buffers, other offsets, other history) are equal, the kernels are handed equal inputs for them (depth 2;
depth 1 and 3 alike from `C16_kernel_input1/3`) -/
theorem C16_buffer_independent2 (v w : View) (o0 o1 p0 p1 : List Nat) (hv : v.offs = [o0, o1]) (hw : w.offs = [p0, p1])
    (wfv : v.off + v.len + 1 ≤ o0.length) (wfw : w.off + w.len + 1 ≤ p0.length)
    (mv0 : MonoOn (rd o0) v.off (v.off + v.len)) (mv1 : MonoOn (rd o1) (rd o0 v.off) (rd o0 (v.off + v.len)))
    (mw0 : MonoOn (rd p0) w.off (w.off + w.len)) (mw1 : MonoOn (rd p1) (rd p0 w.off) (rd p0 (w.off + w.len)))
    (i j : Nat) (hi : i < v.len) (hj : j < w.len)
    (heq : elem2 v.vals o1 (rd o0 (v.off + i)) (rd o0 (v.off + i + 1)) = elem2 w.vals p1 (rd p0 (w.off + j)) (rd p0 (w.off + j + 1))) :
    sl v.vals (rd (outerOffsets v) i) (rd (outerOffsets v) (i + 1)) = sl w.vals (rd (outerOffsets w) j) (rd (outerOffsets w) (j + 1)) := by
  rw [C16_kernel_input2 v o0 o1 hv wfv mv0 mv1 i hi, C16_kernel_input2 w p0 p1 hw wfw mw0 mw1 j hj, heq]

/-- `flat_values` of a window is the concatenation, in order, of what the kernels read for its elements -/
theorem C16_flat_values (v : View) (o0 : List Nat) (rest : List (List Nat)) (ho : v.offs = o0 :: rest)
    (hwf : v.off + v.len + 1 ≤ o0.length) (hm : MonoOn (fun i => thru rest (rd o0 (v.off + i))) 0 v.len) :
    flatValues v = ((rng 0 v.len).map (fun i => sl v.vals (rd (outerOffsets v) i) (rd (outerOffsets v) (i + 1)))).flatten := by
  rw [flatValues_eq ho hwf]
  refine (telescope v.vals hm (Nat.le_refl _) (Nat.zero_le _) (Nat.le_refl _)).symm.trans ?_
  congr 1
  exact List.map_congr_left fun i hi => (kernel_run ho hwf (mem_rng.mp hi).2).symm

/-- `buffer_inner_offsets`: the ring offsets of exactly the elements of the window (depth 2 and 3) -/
theorem C16_inner_offsets (v : View) (o0 o1 o2 : List Nat) (hwf : v.off + v.len + 1 ≤ o0.length) :
    (v.offs = [o0, o1] → innerOffsets v = sl o1 (rd o0 v.off) (rd o0 (v.off + v.len) + 1)) ∧
    (v.offs = [o0, o1, o2] → innerOffsets v = sl o2 (rd o1 (rd o0 v.off)) (rd o1 (rd o0 (v.off + v.len)) + 1)) :=
  ⟨fun h => innerOffsets_eq h hwf, fun h => innerOffsets_eq h hwf⟩

/-- fixed-width arrays (points): element `i` of a window starting at `off + s` is element `s + i` of the window at `off`, and
`flat_values` is the run holding exactly the window's elements -/
theorem C16_fixed (vals : List Int) (w off s i len : Nat) :
    fixedElem vals w (off + s) i = fixedElem vals w off (s + i) ∧
    fixedFlat vals w off len = ((rng 0 len).map (fun i => fixedElem vals w off i)).flatten :=
  -- `fixedElem vals w off i` is by definition the run `sl vals (w * (off + i)) (w * (off + (i + 1)))`, so `telescope` applies as it stands
  ⟨by rw [fixedElem, fixedElem, Nat.add_assoc],
   (telescope vals (g := fun i => w * (off + i)) (fun _ _ _ => Nat.mul_le_mul_left w (Nat.le_succ _)) (Nat.le_refl 0)
     (Nat.zero_le len) (Nat.le_refl _)).symm⟩

/-! non-vacuity: a polygon array of three elements (one missing) on buffers with a leading unused element, sliced -/
example :
    let v : View := { off := 1, len := 2, offs := [[0, 1, 3, 4], [0, 2, 4, 8, 10]], vals := [1,2,3,4,5,6,7,8,9,10], valid := [true, true, false] }
    elems2 v = [some [[3, 4], [5, 6, 7, 8]], none] ∧ outerOffsets v = [2, 8, 10] ∧ flatValues v = [3,4,5,6,7,8,9,10] ∧
    innerOffsets v = [2, 4, 8, 10] ∧ elems2 (v.slice 1 1) = [none] := by decide

end SpVerif
