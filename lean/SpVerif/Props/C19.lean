import SpVerif.Lemmas.Pack
/-!
# C19 — transient filesystem faults never yield a silently wrong packed dataset

The logic half, for the retry-wrapped blocks of `pack_partitions_to_parquet` (`@retryit`): a block whose effect on the
filesystem is a function `f` such that every state `s'` a failed attempt can leave (`Step.failed`) still satisfies
`f s' = f s₀` ends, after any number of failed attempts followed by one that runs through, exactly where a fault-free run ends;
if no attempt runs through, the block raises.  The guarded move, the removal and the (over)writing of a file are such blocks.
That the whole function consists of such blocks, that an exhausted retry budget propagates as an exception, and what the real
filesystem does below the fsspec call boundary is what the exhaustive single-fault enumeration on the real code checks
(partial, DESIGN I.2, row C19).
-/
namespace SpVerif
open PackFS

/-- outcome of a retried block: an attempt ran through, or the budget is exhausted and the block raises -/
inductive Outcome (S : Type) where
  | done (s : S)
  | raised (s : S)
  deriving DecidableEq

def Outcome.raisedOrEq {S : Type} (o : Outcome S) (target : S) : Prop :=
  match o with
  | .done s => s = target
  | .raised _ => True

/-- `retry` semantics: `failed` lists, for each failed attempt, the state it leaves behind (a function of the state it
started from, chosen by the fault schedule); then either one attempt runs the whole block (`f`) or the budget is exhausted -/
def retryRun {S : Type} (f : S → S) (failed : List (S → S)) (succeeds : Bool) (s₀ : S) : Outcome S :=
  let s := failed.foldl (fun s leave => leave s) s₀
  if succeeds then .done (f s) else .raised s

/-- retry block: if every state a failed attempt can leave is one from which the block still ends where a fault-free run
ends, then under every fault schedule the block either raises or ends in the fault-free state -/
theorem C19_retry_block {S : Type} (f : S → S) (s₀ : S) (failed : List (S → S)) (succeeds : Bool)
    (hleave : ∀ leave ∈ failed, ∀ s, f s = f s₀ → f (leave s) = f s₀) :
    (retryRun f failed succeeds s₀).raisedOrEq (f s₀) := by
  cases succeeds with
  | false => trivial
  | true =>
    -- `f s = f s₀` is an invariant of the failed attempts
    exact Lists.foldl_inv (fun s => f s = f s₀) hleave rfl

/-- `move_retry` is idempotent: repeating a completed move changes nothing (its `exists(p1)` guard) -/
theorem C19_move_idempotent (s : St) (m : Nat × Nat) (h : m.1 ≠ m.2) : applyMove (applyMove s m) m = applyMove s m :=
  applyMove_of_absent (applyMove_source_absent s h)

/-- whatever is at `path` goes and `content` is put there (`none`: nothing).  Removing a path (`rm_retry`) and (over)writing a file
(`write_*`) are this: the state a failed attempt leaves differs from the start state at most at that path (not removed yet / half
removed; missing / truncated / complete file), and the block's effect does not depend on what was at the path -/
def putFile (path : Nat) (content : Option Nat) (s : St) : St :=
  (s.filter (fun e => e.1 != path)) ++ (match content with | some c => [(path, c)] | none => [])

theorem putFile_putFile (path : Nat) (c j : Option Nat) (s : St) : putFile path c (putFile path j s) = putFile path c s := by
  unfold putFile
  rw [List.filter_append, List.filter_filter]
  cases j <;> simp

/-- one retried block of the run together with what the fault schedule does to it -/
structure Step (S : Type) where
  f : S → S
  failed : List (S → S)
  succeeds : Bool

/-- the hypothesis of `C19_retry_block`, from every start state `s₀` -/
def Step.Restartable {S : Type} (st : Step S) : Prop :=
  ∀ leave ∈ st.failed, ∀ s₀ s, st.f s = st.f s₀ → st.f (leave s) = st.f s₀

theorem Step.restartable_iff_absorbs {S : Type} {st : Step S} :
    st.Restartable ↔ ∀ leave ∈ st.failed, ∀ s, st.f (leave s) = st.f s :=
  ⟨fun h leave hl s => h leave hl s s rfl, fun h leave hl _ s hs => (h leave hl s).trans hs⟩

theorem Step.retry {S : Type} {st : Step S} (hr : st.Restartable) (s₀ : S) :
    (retryRun st.f st.failed st.succeeds s₀).raisedOrEq (st.f s₀) :=
  C19_retry_block st.f s₀ st.failed st.succeeds (fun leave hl s hs => hr leave hl s₀ s hs)

theorem move_restartable (m : Nat × Nat) (h : m.1 ≠ m.2) (moved : List Bool) (b : Bool) :
    (Step.mk (fun s : St => applyMove s m) (moved.map (fun mv => if mv then (fun s => applyMove s m) else id)) b).Restartable :=
  Step.restartable_iff_absorbs.mpr <| List.forall_mem_map.mpr fun mv _ s => by
    cases mv
    · rfl
    · exact C19_move_idempotent s m h

theorem putFile_restartable (path : Nat) (content : Option Nat) (junk : List (Option Nat)) (b : Bool) :
    (Step.mk (putFile path content) (junk.map (fun j => putFile path j)) b).Restartable :=
  Step.restartable_iff_absorbs.mpr <| List.forall_mem_map.mpr fun j _ => putFile_putFile path content j

/-- the guarded move and the (over)writing / removal of a path are restartable blocks, for every fault schedule -/
theorem C19_blocks_restartable (m : Nat × Nat) (h : m.1 ≠ m.2) (path : Nat) (content : Option Nat) (moved : List Bool)
    (junk : List (Option Nat)) (b₁ b₂ : Bool) :
    (Step.mk (fun s : St => applyMove s m) (moved.map (fun mv => if mv then (fun s => applyMove s m) else id)) b₁).Restartable ∧
    (Step.mk (putFile path content) (junk.map (fun j => putFile path j)) b₂).Restartable :=
  ⟨move_restartable m h moved b₁, putFile_restartable path content junk b₂⟩

/-- a failed `move_retry` attempt leaves the state untouched or already moved; either way the block raises or ends in the moved state -/
theorem C19_move_restartable (s₀ : St) (m : Nat × Nat) (h : m.1 ≠ m.2) (failed : List Bool) (succeeds : Bool) :
    (retryRun (fun s => applyMove s m) (failed.map (fun moved => if moved then (fun s => applyMove s m) else id)) succeeds s₀).raisedOrEq
      (applyMove s₀ m) :=
  Step.retry (move_restartable m h failed succeeds) s₀

/-- the same for `rm_retry` (`content = none`) and the `write_*` blocks: whatever a failed attempt left at the path, the block raises or
ends with the path removed / holding `content` -/
theorem C19_write_restartable (path : Nat) (content : Option Nat) (s₀ : St) (junk : List (Option Nat)) (succeeds : Bool) :
    (retryRun (putFile path content) (junk.map (fun j => putFile path j)) succeeds s₀).raisedOrEq (putFile path content s₀) :=
  Step.retry (putFile_restartable path content junk succeeds) s₀

/-- run the blocks in order; a block whose budget is exhausted raises and nothing after it is executed -/
def runSteps {S : Type} : List (Step S) → S → Outcome S
  | [], s => .done s
  | st :: rest, s =>
    match retryRun st.f st.failed st.succeeds s with
    | .done s' => runSteps rest s'
    | .raised s' => .raised s'

/-- the whole run: if every block is restartable then, whatever the fault schedule does (any number of failed attempts in any
block, any budget exhausted), the run either raises or ends exactly where the fault-free run ends -/
theorem C19_run_of_blocks {S : Type} (steps : List (Step S)) (s₀ : S) (hr : ∀ st ∈ steps, st.Restartable) :
    (runSteps steps s₀).raisedOrEq (steps.foldl (fun s st => st.f s) s₀) := by
  induction steps generalizing s₀ with
  | nil => rfl
  | cons st rest ih =>
    have hb := Step.retry (hr st (List.mem_cons_self ..)) s₀
    simp only [runSteps, List.foldl_cons]
    cases hrun : retryRun st.f st.failed st.succeeds s₀ with
    | raised s' => trivial
    | done s' =>
      rw [hrun] at hb
      cases hb
      exact ih (st.f s₀) (fun x hx => hr x (List.mem_cons_of_mem _ hx))

/-! non-vacuity: two blocks (write part 1, move 2 → 0), the first attempt of the write leaves a truncated file, the move is
interrupted after it took effect: the run ends in the fault-free state -/
example : runSteps [Step.mk (putFile 1 (some 7)) [putFile 1 (some 0)] true,
                    Step.mk (fun s : St => applyMove s (2, 0)) [fun s => applyMove s (2, 0)] true] [(2, 5)]
          = .done [(0, 5), (1, 7)] := by decide

end SpVerif
