import SpVerif.Lemmas.CxIndex
/-!
# C04 — .cx selects exactly the intersecting rows, with or without a spatial index

Theorems about the `.cx` model of `Frames` (`_BaseCoordinateIndexer._get_bounds`, `_CoordinateIndexer._perform_get_item`).
The mask path is, by definition, the rows whose element intersects the box, in original order; the indexed path is the sorted
union of the rows the R-tree reports as covered and the overlapping rows that pass the exact test.  Series / DataFrame wrappers
select the same positions through `iloc` / a boolean mask.
-/
namespace SpVerif
open Geom Frames RTree Dask

/-- reversed slice ends are swapped: the box `.cx` uses is always oriented -/
theorem C04_getbounds_oriented (a b c d : Option Int) (t : Box) :
    (getBounds a b c d t).x0 ≤ (getBounds a b c d t).x1 ∧ (getBounds a b c d t).y0 ≤ (getBounds a b c d t).y1 := by
  rw [getBounds_eq]
  exact ⟨Int.le_trans (Int.min_le_left ..) (Int.le_max_left ..), Int.le_trans (Int.min_le_left ..) (Int.le_max_left ..)⟩

/-- four present slice ends are used as given (up to the swap); with all four omitted the box is the data's total extent -/
theorem C04_getbounds_ends (x0 x1 y0 y1 : Int) (t : Box) (hx : x0 ≤ x1) (hy : y0 ≤ y1) :
    getBounds (some x0) (some x1) (some y0) (some y1) t = ⟨x0, y0, x1, y1⟩ ∧
    getBounds (some x1) (some x0) (some y1) (some y0) t = ⟨x0, y0, x1, y1⟩ ∧
    getBounds none none none none t = orientBox t := by
  refine ⟨?_, ?_, ?_⟩
  · simp only [getBounds_eq, Option.getD_some, Int.min_eq_left hx, Int.min_eq_left hy, Int.max_eq_right hx, Int.max_eq_right hy]
  · simp only [getBounds_eq, Option.getD_some, Int.min_eq_right hx, Int.min_eq_right hy, Int.max_eq_left hx, Int.max_eq_left hy]
  · rw [getBounds_eq, orientBox_eq]; rfl

/-- without an index: exactly the rows whose geometry intersects the box, in their original order -/
theorem C04_cx_exact (b : Box) (els : List (Option Elem)) :
    cxMask b els = (List.range els.length).filter (fun i => elemIB b (els.getD i none)) :=
  cxMask_eq_filter b els

/-- the spatial index is irrelevant: for every tree over the array's bounds rows and every box of positive width and height
the indexed path selects exactly the rows of the mask path -/
theorem C04_index_irrelevant (t : PTree) (b : Box) (els : List (Option Elem))
    (hrows : t.rows.Perm (validRows els)) (hx : b.x0 < b.x1) (hy : b.y0 < b.y1) :
    cxFromTree t b els = cxMask b els := by
  refine List.Perm.eq_of_pairwise' (sortNat_sorted _) (List.Pairwise.imp Nat.le_of_lt ?_)
    ((sortNat_perm _).trans (cx_candidates_perm t b els hrows hx hy))
  rw [cxMask_eq_filter]
  exact List.pairwise_lt_range.sublist List.filter_sublist

/-- in particular for the tree `build_sindex` lays out, for every page size and every arrangement `sorted` of the valid rows -/
theorem C04_index_irrelevant_built (ps : Nat) (hps : 1 ≤ ps) (sorted : List Row) (b : Box) (els : List (Option Elem))
    (hs : sorted.Perm (validRows els)) (hx : b.x0 < b.x1) (hy : b.y0 < b.y1) :
    cxFromTree (buildTree ps sorted) b els = cxMask b els :=
  C04_index_irrelevant _ b els (by rw [buildTree_rows ps hps]; exact hs) hx hy

/-! non-vacuity: a line array with a missing and an empty row, page size 2 -/
example : cxIndexed 2 [] ⟨0, 0, 3, 4⟩ [some (.line [(0,0),(4,4)]), none, some (.line [(4,0),(4,1)]), some (.line []), some (.line [(1,3),(1,4)])] = [0, 4] := by
  decide

end SpVerif
