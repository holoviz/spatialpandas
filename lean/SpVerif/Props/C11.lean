import SpVerif.Model.Parquet
import SpVerif.Generated.Registry
/-!
# C11 — parquet round trips are lossless

What spatialpandas itself contributes to a round trip is small: the dtype *name* written into the pandas metadata and parsed
back through pandas' extension-dtype registry (this is how kind and coordinate subtype survive), and the column list handed to
pyarrow by `read_parquet(columns=…)`.  Those two are modelled and proved here.  The byte-level encoding and decoding of the
nested Arrow arrays is pyarrow's and is not modelled: for it the tie is the differential check alone (every kind × subtype ×
missing/empty/sliced/concatenated arrays × index kinds × compression × partition counts), which is why C11 is claimed as
`partial`.
-/
namespace SpVerif
open Parquet Generated

theorem parseWith_some {kind str r : String} (hk : kind.toList.map Char.toLower = kind.toList ∧ '[' ∉ kind.toList)
    (h : parseWith kind str = some r) : (str.toList.map Char.toLower).takeWhile (· != '[') = kind.toList := by
  simp only [parseWith, String.toLower, String.toList_map, hk.1] at h
  generalize str.toList.map Char.toLower = x at h ⊢
  generalize kind.toList = k at h hk ⊢
  have hk' : ∀ c ∈ k, (c != '[') = true := fun c hc => bne_iff_ne.mpr fun e => hk.2 (e ▸ hc)
  obtain ⟨hp, h⟩ := Option.ite_none_left_eq_some.mp h
  obtain ⟨t, rfl⟩ : k <+: x := by simpa using hp
  rw [List.takeWhile_append_of_pos hk']
  cases t with
  | nil => simp
  | cons c t =>
    -- what follows the kind is `'['` and more, or the name is refused
    rw [if_neg (by simp), List.drop_left] at h
    split at h
    · next heq =>
      cases heq
      simp
    · cases h

/-- at most one kind accepts a given name (`parseWith_some`), so the registry's first match is the only one: no class registered
earlier can take the name of a later one (`line` versus `multiline`, …) -/
theorem parseDtype_eq {kinds : List String} (hk : ∀ k ∈ kinds, k.toList.map Char.toLower = k.toList ∧ '[' ∉ k.toList)
    {k str r : String} (hmem : k ∈ kinds) (h : parseWith k str = some r) : parseDtype kinds str = some (k, r) := by
  induction kinds with
  | nil => cases hmem
  | cons k' rest ih =>
    rw [parseDtype, List.findSome?_cons]
    cases hp : parseWith k' str with
    | some r' =>
      obtain rfl : k' = k :=
        String.ext ((parseWith_some (hk k' List.mem_cons_self) hp).symm.trans (parseWith_some (hk k hmem) h))
      rw [h] at hp
      cases hp
      rfl
    | none =>
      have : k ∈ rest := (List.mem_cons.mp hmem).resolve_left fun e => by rw [e, hp] at h; cases h
      exact ih (fun k hk' => hk k (List.mem_cons_of_mem _ hk')) this

theorem parseWith_print (k s : String) (hl : s.toList.map Char.toLower = s.toList) (hne : s.toList ≠ [])
    (hw : s.toList.all isWordChar = true) : parseWith k (printDtype k s) = some s := by
  -- the printed name starts with `k` and is longer; the rest is `'[' :: s ++ [']']`, whose last character is `']'` and whose
  -- `dropLast` is `s`
  simp [parseWith, printDtype, String.toLower, String.toList_append, hl, hne, hw]

theorem registeredKinds_plain : ∀ k ∈ registeredKinds, k.toList.map Char.toLower = k.toList ∧ '[' ∉ k.toList := by
  decide +kernel

/-- every dtype name spatialpandas prints is parsed back to the same (kind, subtype), for every kind registered in
the source tree (regenerated table) and every coordinate subtype -/
theorem C11_dtype_name_roundtrip :
    ∀ k ∈ registeredKinds, ∀ s ∈ subtypes, parseDtype registeredKinds (printDtype k s) = some (k, s) := by
  intro k hk s hs
  obtain ⟨hl, hne, hw⟩ : s.toList.map Char.toLower = s.toList ∧ s.toList ≠ [] ∧ s.toList.all isWordChar = true := by
    revert s
    decide +kernel
  exact parseDtype_eq registeredKinds_plain hk (parseWith_print k s hl hne hw)

/-- the bare kind name (no subtype) means float64 -/
theorem C11_bare_name_is_float64 :
    ∀ k ∈ registeredKinds, parseDtype registeredKinds k = some (k, "float64") := fun k hk =>
  parseDtype_eq registeredKinds_plain hk (by simp [parseWith])

theorem mem_project_pre {indexCols allCols requested : List String} {c : String} :
    c ∈ indexCols.filter (fun c => !requested.contains c && allCols.contains c) ↔ c ∈ indexCols ∧ c ∉ requested ∧ c ∈ allCols := by
  simp

/-- `columns=`: the columns read are the requested ones, in the requested order, preceded by exactly those index columns
that are stored as columns and were not requested — nothing else, and nothing twice -/
theorem C11_projection (indexCols allCols requested : List String) :
    (∃ pre, project indexCols allCols requested = pre ++ requested ∧ ∀ c ∈ pre, c ∈ indexCols ∧ c ∈ allCols ∧ c ∉ requested) ∧
    (∀ c ∈ indexCols, c ∈ allCols → c ∈ project indexCols allCols requested) ∧
    (indexCols.Nodup → requested.Nodup → (project indexCols allCols requested).Nodup) := by
  unfold project
  refine ⟨⟨_, rfl, fun c hc => ?_⟩, fun c hi ha => ?_, fun h1 h2 => ?_⟩
  · obtain ⟨hi, hr, ha⟩ := mem_project_pre.mp hc
    exact ⟨hi, ha, hr⟩
  · by_cases hr : c ∈ requested
    · exact List.mem_append_right _ hr
    · exact List.mem_append_left _ (mem_project_pre.mpr ⟨hi, hr, ha⟩)
  · exact List.nodup_append.mpr ⟨h1.filter _, h2, fun a ha b hb hab => (mem_project_pre.mp ha).2.1 (hab ▸ hb)⟩

/-- an index that is not stored as a column (a `RangeIndex`, kept in the metadata only) adds nothing to the request -/
theorem C11_projection_range_index (allCols requested : List String) : project [] allCols requested = requested := by
  simp [project]

/-! non-vacuity -/
example : project ["hilbert_distance"] ["hilbert_distance", "a", "geometry"] ["geometry", "a"] = ["hilbert_distance", "geometry", "a"] := by decide
example : project ["idx"] ["idx", "a", "geometry"] ["a", "idx"] = ["a", "idx"] := by decide

end SpVerif
