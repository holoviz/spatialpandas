import SpVerif.Model.ActiveGeom
/-!
# C20 — the active geometry column is honoured and survives frame operations

Theorems about the specification machine `ActiveGeom` (what the frame operations must do to the pair
"flavour, active column"); that pandas / Dask route every listed operation through this machine is what the
correspondence check observes (DESIGN I.2, row C20).
-/
namespace SpVerif
open ActiveGeom

/-- row-level operations (selection, sorting, copying, cx, pickling, concatenation of agreeing frames, a Dask
round trip) leave the frame's columns and its active geometry untouched -/
theorem C20_rows_keep_active (f : Frame) : step f .rows = some f := rfl

theorem mem_geomCols {f : Frame} {a : String} : a ∈ geomCols f ↔ (a, true) ∈ f.cols := by
  simp [geomCols]

def subCols (f : Frame) (keep : List String) : List (String × Bool) := f.cols.filter (fun c => keep.contains c.1)

theorem mem_subCols {f : Frame} {keep : List String} {c : String × Bool} : c ∈ subCols f keep ↔ c ∈ f.cols ∧ c.1 ∈ keep := by
  simp [subCols]

theorem step_subset (f : Frame) (keep : List String) :
    step f (.subset keep) = some ⟨subCols f keep, f.active.filter (fun a => (geomCols ⟨subCols f keep, none⟩).contains a)⟩ := by
  unfold step subCols geomCols
  cases f.active with
  | none => rfl
  | some a => simp only [Option.filter]; split <;> rfl

/-- the resolution rule of the constructor always yields a frame whose active column is one of its geometry columns -/
theorem C20_init_resolution (cols : List (String × Bool)) (e i : Option String) (f : Frame)
    (h : init cols e i = some f) : f.cols = cols ∧ ∃ a, f.active = some a ∧ a ∈ geomCols f := by
  unfold init at h
  generalize hgs : (cols.filter (·.2)).map (·.1) = gs at h
  -- every rule that succeeds returns `⟨cols, some g⟩` for a `g` among the geometry columns `gs`
  suffices ∃ g ∈ gs, f = ⟨cols, some g⟩ by
    obtain ⟨g, hg, rfl⟩ := this
    exact ⟨rfl, g, rfl, by rwa [geomCols, hgs]⟩
  cases gs with
  | nil => cases h
  | cons first rest =>
    have hf : first ∈ first :: rest := List.mem_cons_self
    cases e with
    | some g =>
      obtain ⟨hc, ⟨⟩⟩ := Option.ite_none_right_eq_some.mp h
      exact ⟨g, List.contains_iff_mem.mp hc, rfl⟩
    | none =>
      cases i with
      | some g =>
        simp only at h
        split at h
        · next hc => exact ⟨g, List.contains_iff_mem.mp hc, (Option.some.inj h).symm⟩
        · exact ⟨first, hf, (Option.some.inj h).symm⟩
      | none => exact ⟨first, hf, (Option.some.inj h).symm⟩

/-- invariant: the active column, if any, is a geometry column of the frame — preserved by every operation -/
theorem C20_invariant (f f' : Frame) (op : Op) (hinv : Inv f) (h : step f op = some f') : Inv f' := by
  cases op with
  | rows => cases h; exact hinv
  | setGeometry g =>
    obtain ⟨hc, ⟨⟩⟩ := Option.ite_none_right_eq_some.mp h
    intro a ha
    cases ha
    exact List.contains_iff_mem.mp hc
  | subset keep =>
    rw [step_subset] at h
    cases h
    intro a ha
    exact List.contains_iff_mem.mp (Option.filter_eq_some_iff.mp ha).2

def keeps (a : String) : Op → Prop
  | .rows => True
  | .subset keep => a ∈ keep
  | .setGeometry _ => False

def runOps : Frame → List Op → Option Frame
  | f, [] => some f
  | f, op :: ops => (step f op).bind (fun f' => runOps f' ops)

theorem step_keeps {a : String} {f : Frame} {op : Op} (hact : f.active = some a) (hinv : Inv f) (hk : keeps a op) :
    ∃ f', step f op = some f' ∧ f'.active = some a := by
  cases op with
  | rows => exact ⟨f, rfl, hact⟩
  | setGeometry g => exact hk.elim
  | subset keep =>
    refine ⟨_, step_subset f keep, ?_⟩
    have : (a, true) ∈ subCols f keep := mem_subCols.mpr ⟨mem_geomCols.mp (hinv a hact), hk⟩
    simpa [hact, Option.filter] using mem_geomCols.mpr this

/-- every sequence of operations that keep the active column returns a geo frame with the same active geometry -/
theorem C20_preserved (a : String) (ops : List Op) (f : Frame) (hact : f.active = some a) (hinv : Inv f)
    (hk : ∀ op ∈ ops, keeps a op) :
    ∃ f', runOps f ops = some f' ∧ f'.active = some a ∧ isGeo f' = true := by
  induction ops generalizing f with
  | nil => exact ⟨f, rfl, hact, by simpa [isGeo, List.isEmpty_iff] using List.ne_nil_of_mem (hinv a hact)⟩
  | cons op ops ih =>
    obtain ⟨f', hs, hact'⟩ := step_keeps hact hinv (hk op (List.mem_cons_self ..))
    simp only [runOps, hs, Option.bind]
    exact ih f' hact' (C20_invariant f f' op hinv hs) fun o ho => hk o (List.mem_cons_of_mem _ ho)

/-- a result without any geometry column is a plain frame without an active geometry -/
theorem C20_plain_without_geometry (f : Frame) (keep : List String)
    (h : ∀ c ∈ f.cols, c.2 = true → c.1 ∉ keep) :
    ∃ f', step f (.subset keep) = some f' ∧ isGeo f' = false ∧ f'.active = none := by
  have hnil : geomCols ⟨subCols f keep, none⟩ = [] := by
    simp only [geomCols, List.map_eq_nil_iff, List.filter_eq_nil_iff]
    intro c hc hg
    exact h c (mem_subCols.mp hc).1 (by simpa using hg) (mem_subCols.mp hc).2
  refine ⟨_, step_subset f keep, ?_, ?_⟩
  · show (!(geomCols ⟨subCols f keep, none⟩).isEmpty) = false
    rw [hnil]; rfl
  · simp [hnil]

/-- `set_geometry` accepts exactly the geometry columns of the frame -/
theorem C20_set_geometry_validation (f : Frame) (g : String) :
    (step f (.setGeometry g)).isSome = (geomCols f).contains g := by
  simp only [step]
  split <;> simp_all

/-! non-vacuity: a frame with three geometry columns, active column neither first nor called `geometry` -/
example : ∃ f, init [("v", false), ("ln", true), ("pt", true), ("pg", true)] (some "pt") none = some f ∧
    f.active = some "pt" ∧ Inv f := by
  refine ⟨⟨[("v", false), ("ln", true), ("pt", true), ("pg", true)], some "pt"⟩, by decide, rfl, ?_⟩
  intro a ha; cases ha; decide

end SpVerif
