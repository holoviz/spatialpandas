import SpVerif.Model.Parquet
import SpVerif.Lemmas.DaskFacts
import SpVerif.Lemmas.Pack
/-!
# C12 — stored partition bounds are the true extents; pruning never loses a row

Theorems about the metadata model: the natural-sort key orders `part.<i>.parquet` numerically for every number of
partitions (the textual order does not from the eleventh on), re-sorting the loaded bounds rows by their integer key restores
the partition order whatever order the JSON object came back in, and pruning by the recorded extent keeps every partition that
holds a row intersecting the box — given that the recorded extent is the true extent, which is what the correspondence checks
on every dataset it writes.
-/
namespace SpVerif
open Parquet Dask Geom Frames RTree

/-- textual and numeric order of part files differ from the eleventh partition on -/
theorem C12_textual_order_differs : ("part.10.parquet" < "part.2.parquet") = true ∧ keyLe (partKey 2) (partKey 10) = true := by
  decide

/-- the natural-sort key orders part files numerically, for every pair of partition numbers -/
theorem C12_natural_order (i j : Nat) : keyLe (partKey i) (partKey j) = decide (i ≤ j) := by
  -- the first tokens agree; the numbers decide, unless they agree too, and then so do the last tokens
  by_cases h : i = j <;> simp [partKey, keyLe, Tok.le, h]

/-- `_load_partition_bounds`: whatever order the rows of the JSON object come back in, sorting them by their integer key
yields the rows in partition order -/
theorem C12_load_restores_order (rows : List (Nat × Nat)) (stored loaded : List (Nat × Nat))
    (hs : stored = (List.range rows.length).zip (rows.map (·.2))) (hp : loaded.Perm stored) :
    (loaded.mergeSort (fun a b => a.1 ≤ b.1)) = stored := by
  -- the sort is `Pack.sortRows`; the stored keys `0 … n-1` strictly increase
  refine Pack.sortRows_eq_of_perm hp ?_
  rw [hs, ← List.pairwise_map (f := Prod.fst) (R := (· < ·)), List.map_fst_zip (by simp)]
  exact List.pairwise_lt_range

/-- pruning keeps exactly the partitions whose recorded extent overlaps the closed (oriented) box -/
theorem C12_prune_exact (bx0 by0 bx1 by1 x0 y0 x1 y1 : Int) :
    keepPartition (bx0, by0, bx1, by1) (some (x0, y0, x1, y1)) = true ↔ ¬ (x1 < bx0 ∨ y1 < by0 ∨ x0 > bx1 ∨ y0 > by1) := by
  simp only [keepPartition, Bool.not_eq_true', Bool.or_eq_false_iff, decide_eq_false_iff_not, not_or, and_assoc]

/-- pruning never loses a row: if the recorded extent of a partition is the total bounds of its rows, a partition that
holds a row intersecting the box is kept -/
theorem C12_prune_loses_no_row (b : Box) (hb : orientBox b = b) (part : Part) (e : Elem) (he : some e ∈ part)
    (hit : elemIB b (some e) = true) :
    ∃ B, Dask.totalBounds part = some B ∧
      keepPartition (b.x0, b.y0, b.x1, b.y1) (some (lo B 0, lo B 1, hi 2 B 0, hi 2 B 1)) = true := by
  obtain ⟨B, hB, ho⟩ := totalBounds_overlaps hb he hit
  refine ⟨B, hB, ?_⟩
  rw [← Bool.not_eq_true, outside_iff, Lists.exists_lt_two] at ho
  rw [C12_prune_exact]
  -- `hi 2 (nbox b) 0` is `b.x1` by computation, and so on
  exact fun h => ho (by
    show (b.x1 < lo B 0 ∨ b.x0 > hi 2 B 0) ∨ (b.y1 < lo B 1 ∨ b.y0 > hi 2 B 1)
    omega)

end SpVerif
