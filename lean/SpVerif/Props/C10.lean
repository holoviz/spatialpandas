import SpVerif.Lemmas.PackProto
/-!
# C10 — pack_partitions_to_parquet leaves a complete, clean, re-readable dataset

`C10_contiguous` is about the renumbering step, the only place where a part file is moved onto another name, executed in the
coded order.  `C10_final_tree`: the whole fault-free protocol (`Model/PackProto.lean`), for every pattern of empty cells, every
temporary-directory mode, a prior dataset with `overwrite=True` and every order in which the concatenation tasks run, ends with
exactly the part files `0 … m-1` and the two metadata files: no placeholder or temporary directory, no sub-part file, no `{uuid}`
directory, nothing of the prior dataset.  The model's final tree is compared with the real directory tree on every
correspondence case; the parquet encoding of the files is pyarrow's.
-/
namespace SpVerif
open PackFS PackProto

def IncFrom : Nat → List Nat → Prop
  | _, [] => True
  | j, i :: rest => j ≤ i ∧ IncFrom (i + 1) rest

theorem IncFrom.pairwise {j : Nat} {l : List Nat} (h : IncFrom j l) : (∀ x ∈ l, j ≤ x) ∧ l.Pairwise (· < ·) := by
  induction l generalizing j with
  | nil => simp
  | cons i rest ih =>
    obtain ⟨h1, h2⟩ := ih h.2
    exact ⟨List.forall_mem_cons.mpr ⟨h.1, fun x hx => by have := h1 x hx; have := h.1; omega⟩,
      List.pairwise_cons.mpr ⟨fun x hx => h1 x hx, h2⟩⟩

/-- renumbering is safe and order preserving: for every strictly increasing list of non-empty output partitions the final
dataset holds exactly their contents under the indices `0 … m-1`, in the same order; nothing is overwritten or lost -/
theorem C10_contiguous (nonEmpty : List Nat) (h : IncFrom 0 nonEmpty) :
    (compact nonEmpty).Perm ((List.range nonEmpty.length).zip nonEmpty) := by
  have := compactFrom_spec 0 nonEmpty [] (initial nonEmpty) h.pairwise.1 h.pairwise.2 (by simp) (by simp [initial])
  simpa [compact, List.range_eq_range'] using this

/-- when no output partition is empty nothing is moved -/
theorem C10_no_empty_no_moves (k : Nat) : moves (List.range k) = [] := by
  unfold moves
  rw [List.filter_eq_nil_iff]
  intro p hp
  obtain ⟨i, hi, rfl⟩ := List.mem_iff_getElem.mp hp
  simp [List.getElem_zip]

/-- the whole fault-free run leaves a complete, clean dataset, whatever the order of the concatenation tasks -/
theorem C10_final_tree (m : Mode) (overwrite : Bool) (n nIn : Nat) (cells : Nat → Nat → Bool) (order : List Nat)
    (hperm : order.Perm (List.range n)) (t₀ : Tree) (h0 : overwrite = true ∨ t₀ = PackProto.empty)
    (hext : t₀.tmpDirs = [] ∧ t₀.subs = [] ∧ t₀.uuidDir = false) :
    let t := run m overwrite n nIn cells order t₀
    let ne := nonEmptyList n nIn cells
    t.placeholders = [] ∧ t.tmpDirs = [] ∧ t.subs = [] ∧ t.uuidDir = false ∧ t.metaF = true ∧ t.cmetaF = true ∧ t.stale = [] ∧
      t.files.Perm ((List.range ne.length).zip ne) := by
  intro t ne
  have h1 : (if overwrite then overwriteRm m t₀ else t₀) = PackProto.empty := by
    rcases h0 with rfl | rfl
    · cases t₀
      simp_all [overwriteRm, PackProto.empty]
    · cases overwrite <;> simp [overwriteRm, PackProto.empty]
  simp only [t, run_eq, h1, PackProto.empty, List.nil_append, true_and]
  refine ⟨filter_done hperm id fun a ha => List.mem_range.mp ha, ?_, ?_, ?_⟩
  · split
    · rfl
    · exact filter_done hperm id fun a ha => List.mem_range.mp ha
  · refine filter_done hperm Prod.fst fun s hs => ?_
    simp only [List.mem_flatMap, List.mem_map, List.mem_range] at hs
    obtain ⟨i, hi, j, _, rfl⟩ := hs
    exact hi
  · have := compactFrom_spec 0 ne [] _ (fun _ _ => Nat.zero_le _) (List.pairwise_lt_range.filter _) (by simp)
      (((hperm.filter _).map _).trans (.of_eq (List.append_nil _).symm))
    simpa [List.range_eq_range'] using this

/-! non-vacuity: 4 output partitions (1 and 2 empty), 2 input partitions, external `{uuid}` temp dir, overwrite of a prior
dataset of 6 parts, concatenation tasks finishing in the order 2,0,3,1 -/
example :
    run .outsideUuid true 4 2 (fun i j => (i == 0 && j == 0) || (i == 3)) [2, 0, 3, 1]
      { PackProto.empty with files := [(0, 1000), (5, 1005)], metaF := true, cmetaF := true }
    = { PackProto.empty with files := [(1, 3), (0, 0)], metaF := true, cmetaF := true } := by decide

/-! non-vacuity: output partitions 1, 2 and 5 of 0..7 are empty -/
example : IncFrom 0 [0, 3, 4, 6, 7] ∧ compact [0, 3, 4, 6, 7] = [(4, 7), (3, 6), (2, 4), (1, 3), (0, 0)] := by
  refine ⟨by simp [IncFrom], by decide⟩

end SpVerif
