import SpVerif.Lemmas.Bounds
/-!
# C13 — bounds and total_bounds are the tight extents of the geometry

Theorems about the scan model `Bounds.axisRange` / `totalBounds` (`total_bounds_interleaved(_1d)`,
`bounds_interleaved`): per axis the result is exactly (min, max) over the finite coordinates, NaN iff there is none;
the total bounds are the NaN-ignoring union of the per-element rows (which is what the Dask fold, `GeoSeries` and the
index's `total_bounds` compute - not the root box of the tree, see the end of this file), so every row lies inside the total bounds.
-/
namespace SpVerif
open Bounds

/-- a non-finite coordinate never changes a range (it is skipped by `np.isfinite`) -/
theorem C13_nonfinite_skipped (r : Range) : r.add .nan = r ∧ r.add .pinf = r ∧ r.add .ninf = r := by
  cases r <;> simp [Range.add]

/-- the scan is a monoid homomorphism: the range of a concatenation is the NaN-ignoring union of the ranges -/
theorem C13_range_append (xs ys : List Coord) : axisRange (xs ++ ys) = (axisRange xs).union (axisRange ys) :=
  axisRange_append xs ys

/-- tightness per axis: NaN iff no coordinate is finite; otherwise both ends are attained by finite coordinates of the
input and every finite coordinate lies between them -/
theorem C13_axis_tight (cs : List Coord) :
    match axisRange cs with
    | none => ∀ v, Coord.fin v ∉ cs
    | some (lo, hi) => Coord.fin lo ∈ cs ∧ Coord.fin hi ∈ cs ∧ ∀ v, Coord.fin v ∈ cs → lo ≤ v ∧ v ≤ hi := by
  induction cs with
  | nil => simp [axisRange]
  | cons c cs ih =>
    cases c with
    | fin v =>
      rw [axisRange_cons]
      simp only [List.mem_cons, Coord.fin.injEq]
      cases hr : axisRange cs with
      | none =>
        rw [hr] at ih
        refine ⟨.inl rfl, .inl rfl, fun w hw => ?_⟩
        rcases hw with rfl | hw
        · omega
        · exact absurd hw (ih w)
      | some x =>
        obtain ⟨lo, hi⟩ := x
        rw [hr] at ih
        obtain ⟨hlo, hhi, hall⟩ := ih
        -- the new ends are `v` or the old ones
        refine ⟨?_, ?_, fun w hw => ?_⟩
        · exact (Std.min_eq_or (a := v) (b := lo)).elim .inl fun e => .inr (e.symm ▸ hlo)
        · exact (Std.max_eq_or (a := v) (b := hi)).elim .inl fun e => .inr (e.symm ▸ hhi)
        show min v lo ≤ w ∧ w ≤ max v hi
        rcases hw with rfl | hw
        · omega
        · have := hall w hw; omega
    | _ =>
      -- skipped: neither the range nor the finite members change
      rw [axisRange_cons_skip rfl]
      simpa only [List.mem_cons, reduceCtorEq, false_or] using ih

/-- a missing element, or one without vertices, has the all-NaN row -/
theorem C13_inert_row : totalBounds [] = Row.empty := rfl

/-- total_bounds is the NaN-ignoring union of the rows: for the vertices of two groups of elements (and, by
induction, of any partitioning into elements / partitions / pages) -/
theorem C13_total_is_union_of_rows (vs ws : List (Coord × Coord)) :
    totalBounds (vs ++ ws) = (totalBounds vs).union (totalBounds ws) := by
  simp only [totalBounds, Row.union, List.map_append, C13_range_append]

/-- the fold over any list of element rows (what `DaskGeoSeries.total_bounds`, `np.nanmin/nanmax` over partition bounds,
and `HilbertRtree.total_bounds` (see `C13_index_total_bounds`) compute) equals the bounds of all vertices together -/
theorem C13_fold_of_rows (els : List (List (Coord × Coord))) :
    (els.map totalBounds).foldl Row.union Row.empty = totalBounds els.flatten :=
  Fold.foldl_map_flatten totalBounds C13_total_is_union_of_rows els []

/-- every row lies inside the total bounds: per axis, a defined row range is contained in the (then defined) total range -/
theorem C13_row_inside_total (xs ys zs : List Coord) (lo hi : Int) (h : axisRange ys = some (lo, hi)) :
    ∃ tlo thi, axisRange (xs ++ ys ++ zs) = some (tlo, thi) ∧ tlo ≤ lo ∧ hi ≤ thi := by
  rw [C13_range_append, C13_range_append, h]
  -- whichever neighbours are defined, the union computes and only widens the range
  rcases axisRange xs with _ | ⟨c, d⟩ <;> rcases axisRange zs with _ | ⟨a, b⟩ <;> exact ⟨_, _, rfl, by omega, by omega⟩

/-- the spatial index reports the total bounds (`HilbertRtree.total_bounds` as coded, D41: per column over all rows,
NaN ignored): it equals the bounds of all vertices together, whatever rows are undefined on one axis or on both -/
theorem C13_index_total_bounds (els : List (List (Coord × Coord))) :
    indexTotal (els.map totalBounds) = totalBounds els.flatten :=
  C13_fold_of_rows els

/-- the root box of the tree (the union of the rows that are in the tree) is that total when no row is undefined on one axis
alone; the example below shows that the hypothesis is needed, which is why the root box cannot stand in for the total bounds (D41) -/
theorem C13_root_box_without_half_defined_rows (rows : List Row) (h : ∀ r ∈ rows, r.defined = true ∨ r = Row.empty) :
    rootBox rows = indexTotal rows :=
  rootBox_gen rows h Row.empty

/-! the hypothesis is needed (the input of D41): an element with x undefined and y in 5..7, next to the box (1,1)-(2,2) -/
example : rootBox [⟨none, some (5, 7)⟩, ⟨some (1, 2), some (1, 2)⟩] = ⟨some (1, 2), some (1, 2)⟩ ∧
    indexTotal [⟨none, some (5, 7)⟩, ⟨some (1, 2), some (1, 2)⟩] = ⟨some (1, 2), some (1, 7)⟩ := by decide
example : ∀ r ∈ [(⟨none, none⟩ : Row), ⟨some (1, 2), some (1, 2)⟩], r.defined = true ∨ r = Row.empty := by decide

/-! non-vacuity: a line with a NaN and an infinite coordinate -/
example : totalBounds [(.fin 1, .fin 2), (.nan, .fin 4), (.fin 5, .ninf)] = ⟨some (1, 5), some (2, 4)⟩ := by decide

end SpVerif
