import SpVerif.Lemmas.Hilbert2Curve
/-!
# C07 — the Hilbert curve mapping is a locality-preserving bijection

The n = 2 theorems are about `coord2`/`dist2`, the word-level model (`Model/Hilbert.lean`) of `coordinate_from_distance` /
`distance_from_coordinate` in `spatialpandas/spatialindex/hilbert_curve.py`, for every order `p` (unbounded `Nat`; the code is
int64).  For every dimension n (the list model `coordN`/`distN` of the same two routines; for n = 2 it is the pair model,
`C07_list_model_is_pair_model`) the round trips, the ranges, the bijection, the end points and, on the decoder side, refinement
(the lemma `Hilbert.coordN_refine`, on which `C07_refinement` and `C07_one_dimension` rest) are proved.  Adjacency and the identity
with the classical recursion are proved for n = 2 (and n = 1, `C07_one_dimension`); for n = 3 they are compared with the
implementation by the correspondence check, as are all clauses for n ∈ {1, 3}.
-/
namespace SpVerif
open Hilbert

/-- distance → coordinates → distance is the identity -/
theorem C07_roundtrip_cd (p h : Nat) (hh : h < 4 ^ p) : dist2 p (coord2 p h) = h := by
  rw [← distN_two, ← coordN_two]
  exact distN_coordN p 2 h (by omega) (four_pow_eq p ▸ hh)

/-- coordinates → distance → coordinates is the identity -/
theorem C07_roundtrip_dc (p : Nat) (c : W2) (hc : c.1 < 2 ^ p ∧ c.2 < 2 ^ p) :
    coord2 p (dist2 p c) = c := by
  apply L2_inj
  rw [← coordN_two, ← distN_two]
  exact coordN_distN p (L2 c) (by simp [L2]) (allLt_L2.2 hc)

/-- coordinates stay on the `2^p × 2^p` grid, distances below `4^p` -/
theorem C07_range (p : Nat) :
    (∀ h, (coord2 p h).1 < 2 ^ p ∧ (coord2 p h).2 < 2 ^ p) ∧ (∀ c, dist2 p c < 4 ^ p) :=
  ⟨coord2_bdd p, dist2_lt p⟩

/-- every cell of the grid is visited by exactly one distance in `[0, 4^p)` -/
theorem C07_bijection (p : Nat) (c : W2) (hc : c.1 < 2 ^ p ∧ c.2 < 2 ^ p) :
    ∃ h, h < 4 ^ p ∧ coord2 p h = c ∧ ∀ h', h' < 4 ^ p → coord2 p h' = c → h' = h := by
  refine ⟨dist2 p c, dist2_lt p c, C07_roundtrip_dc p c hc, ?_⟩
  intro h' hh' e
  rw [← e, C07_roundtrip_cd p h' hh']

/-- the word-level algorithm is the classical recursive Hilbert curve -/
theorem C07_classical_recursion (p h : Nat) (hh : h < 4 ^ p) : coord2 p h = hilbertRec p h :=
  coord2_eq_rec p h hh

/-- consecutive distances are grid neighbours (differ by one in exactly one coordinate) -/
theorem C07_adjacent (p h : Nat) (hh : h + 1 < 4 ^ p) :
    let a := coord2 p h
    let b := coord2 p (h + 1)
    (a.1 = b.1 ∧ (a.2 + 1 = b.2 ∨ b.2 + 1 = a.2)) ∨ (a.2 = b.2 ∧ (a.1 + 1 = b.1 ∨ b.1 + 1 = a.1)) :=
  coord2_adjacent p h hh

/-- the curve starts at `(0,0)` and ends at `(2^p - 1, 0)` -/
theorem C07_endpoints (p : Nat) : coord2 p 0 = (0, 0) ∧ coord2 p (4 ^ p - 1) = (2 ^ p - 1, 0) :=
  ⟨coord2_first p, coord2_last p⟩

/-- the curve starts at the origin in every dimension: distance 0 is the cell `(0, …, 0)`, for every `n` and `p` -/
theorem C07_first_point_all_n (p n : Nat) : coordN p n 0 = List.replicate n 0 :=
  coordN_zero p n

/-- end points in every dimension: the last distance `2^(n·p) − 1` is the cell `(2^p − 1, 0, …, 0)` - the curve runs from the origin to the
far end of the first axis, for every `n ≥ 1` and `p ≥ 1` -/
theorem C07_endpoints_all_n (p n : Nat) (hp : 1 ≤ p) (hn : 1 ≤ n) :
    coordN p n 0 = List.replicate n 0 ∧ coordN p n (2 ^ (n * p) - 1) = (2 ^ p - 1) :: List.replicate (n - 1) 0 :=
  ⟨coordN_zero p n, coordN_last p n hp hn⟩

/-- one dimension (the R-tree on intervals): the curve is the identity, consecutive distances are neighbouring cells, and the
order-`p+1` curve refines the order-`p` curve (`coord >>> 1` at distance `h` is the order-`p` coordinate at `h >>> 1`) -/
theorem C07_one_dimension (p h : Nat) (hh : h < 2 ^ p) :
    coordN p 1 h = [h] ∧ (h + 1 < 2 ^ p → coordN p 1 (h + 1) = [h + 1]) ∧
    (∀ h', h' < 2 ^ (p + 1) → (coordN (p + 1) 1 h').map (· >>> 1) = coordN p 1 (h' >>> 1)) :=
  ⟨coordN_one p h hh, fun h1 => coordN_one p (h + 1) h1, fun h' _ => coordN_refine p 1 h'⟩

/-- successive orders refine each other: dropping the last two bits of the order-`p+1`
distance of a cell gives the order-`p` distance of its parent cell -/
theorem C07_refinement (p : Nat) (c : W2) (hc : c.1 < 2 ^ (p+1) ∧ c.2 < 2 ^ (p+1)) :
    dist2 (p+1) c / 4 = dist2 p (c.1 / 2, c.2 / 2) := by
  have h4 : dist2 (p+1) c / 4 < 4 ^ p := Nat.div_lt_of_lt_mul (Nat.pow_succ' ▸ dist2_lt (p+1) c)
  rw [← C07_roundtrip_cd p _ h4, ← coord2_refine, C07_roundtrip_dc (p+1) c hc]

/-! non-vacuity: the hypotheses are met by concrete non-trivial cells -/
example : (27 : Nat) < 4 ^ 3 ∧ coord2 3 27 = (3, 6) ∧ dist2 3 (3, 6) = 27 := by decide
example : ((5, 6) : W2).1 < 2 ^ 3 ∧ ((5, 6) : W2).2 < 2 ^ 3 ∧ dist2 3 (5, 6) / 4 = dist2 2 (2, 3) := by decide

/-- the routine written for every n, run with n = 2, is the pair model the n = 2 theorems are about - so the classical
recursion, adjacency, end points and refinement hold for what `coordinates_from_distances(p, 2, ·)` computes -/
theorem C07_list_model_is_pair_model (p h : Nat) : coordN p 2 h = [(coord2 p h).1, (coord2 p h).2] :=
  coordN_two p h

/-- consecutive distances are grid neighbours, stated for the list model with n = 2 -/
theorem C07_adjacent_list_model (p h : Nat) (hh : h + 1 < 4 ^ p) :
    ∃ a0 a1 b0 b1, coordN p 2 h = [a0, a1] ∧ coordN p 2 (h + 1) = [b0, b1] ∧
      ((a0 = b0 ∧ (a1 + 1 = b1 ∨ b1 + 1 = a1)) ∨ (a1 = b1 ∧ (a0 + 1 = b0 ∨ b0 + 1 = a0))) :=
  ⟨_, _, _, _, coordN_two p h, coordN_two p (h + 1), coord2_adjacent p h hh⟩

/-- distance → coordinates → distance is the identity, for every order and every dimension -/
theorem C07_roundtrip_cd_all_n (p n h : Nat) (hn : 0 < n) (hh : h < 2 ^ (n * p)) : distN p (coordN p n h) = h :=
  distN_coordN p n h hn hh

/-- coordinates → distance → coordinates is the identity, for every order `p ≥ 1` and every dimension -/
theorem C07_roundtrip_dc_all_n (p : Nat) (hp : 1 ≤ p) (X : List Nat) (hn : 0 < X.length) (hX : ∀ x ∈ X, x < 2 ^ p) :
    coordN p X.length (distN p X) = X :=
  coordN_distN p X hn hX

/-- every distance is mapped to a cell of the `2^p`-per-side grid (one coordinate per dimension), every cell to a distance
below `2^(n p)` -/
theorem C07_range_all_n (p n h : Nat) (X : List Nat) :
    ((coordN p n h).length = n ∧ ∀ x ∈ coordN p n h, x < 2 ^ p) ∧ distN p X < 2 ^ (X.length * p) :=
  ⟨coordN_range p n h, distN_lt p X⟩

/-- every cell of the grid is visited exactly once by the distances `0 … 2^(n p) - 1`: the cell's distance is below
`2^(n p)`, is mapped to the cell, and no other distance below `2^(n p)` is -/
theorem C07_bijection_all_n (p : Nat) (hp : 1 ≤ p) (X : List Nat) (hn : 0 < X.length) (hX : ∀ x ∈ X, x < 2 ^ p) :
    distN p X < 2 ^ (X.length * p) ∧ coordN p X.length (distN p X) = X ∧
    ∀ h, h < 2 ^ (X.length * p) → coordN p X.length h = X → h = distN p X := by
  refine ⟨distN_lt p X, coordN_distN p X hn hX, ?_⟩
  intro h hh hc
  rw [← distN_coordN p X.length h hn hh, hc]

/-! non-vacuity: n = 3, p = 2 -/
example : coordN 2 3 45 = [3, 3, 3] ∧ distN 2 [3, 3, 3] = 45 := by decide

end SpVerif
