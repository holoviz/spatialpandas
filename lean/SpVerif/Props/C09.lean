import SpVerif.Lemmas.Pack
/-!
# C09 — `pack_partitions` keeps every row and orders rows along the curve

`Pack.pack cuts rows`: all rows (key = Hilbert distance, second component = row identity) sorted by key with a stable sort
and cut into `cuts.length + 1` consecutive groups at *any* cut points: Dask chooses the divisions from quantiles of the keys,
and the theorems hold for every choice.  Dask can produce fewer partitions than requested on tiny or duplicate-heavy frames
(known finding D16): `C09_partition_count` is about the model's `cuts`, and the correspondence check compares the produced
partitions with `pack` for the cut points Dask chose.
-/
namespace SpVerif
open Pack

/-- the partitions, read in order, are the rows sorted by Hilbert distance -/
theorem C09_concatenation_is_sorted_rows (cuts : List Nat) (rows : List KRow) :
    (pack cuts rows).flatten = sortRows rows := flatten_cutAt cuts 0 _

theorem C09_sort_conserves_rows (rows : List KRow) : (sortRows rows).Perm rows :=
  sortRows_perm rows

/-- packing keeps exactly the input rows (as a multiset): no row lost, none duplicated, whatever the cut points -/
theorem C09_rows_conserved (cuts : List Nat) (rows : List KRow) : (pack cuts rows).flatten.Perm rows := by
  rw [C09_concatenation_is_sorted_rows]
  exact C09_sort_conserves_rows rows

/-- inside every partition the keys do not decrease, and every key of an earlier partition is `≤` every key of a
later one -/
theorem C09_sorted_within_and_across (cuts : List Nat) (rows : List KRow) :
    (∀ part ∈ pack cuts rows, part.Pairwise (fun a b => a.1 ≤ b.1)) ∧
    (pack cuts rows).Pairwise (fun p q => ∀ a ∈ p, ∀ b ∈ q, a.1 ≤ b.1) := by
  have h := sortRows_sorted rows
  rw [← C09_concatenation_is_sorted_rows cuts rows, List.pairwise_flatten] at h
  exact h

/-- the number of partitions is the number of cut points plus one (`npartitions`) -/
theorem C09_partition_count (cuts : List Nat) (rows : List KRow) : (pack cuts rows).length = cuts.length + 1 :=
  length_cutAt cuts 0 _

/-- the input partitioning is irrelevant: rows presented in any other order (any split into input partitions, read in
any order) give the same sequence of keys, hence — cut at the same points — partitions with the same keys; with distinct
keys the partitions are identical -/
theorem C09_input_partitioning_irrelevant (cuts : List Nat) (rows rows' : List KRow) (hp : rows.Perm rows') :
    (sortRows rows).map (·.1) = (sortRows rows').map (·.1) ∧
    ((rows.map (·.1)).Nodup → pack cuts rows = pack cuts rows') := by
  have hperm : (sortRows rows).Perm (sortRows rows') :=
    (C09_sort_conserves_rows rows).trans (hp.trans (C09_sort_conserves_rows rows').symm)
  constructor
  · exact (hperm.map _).eq_of_pairwise (fun _ _ _ _ => Nat.le_antisymm) (List.pairwise_map.mpr (sortRows_sorted rows))
      (List.pairwise_map.mpr (sortRows_sorted rows'))
  · intro hnd
    rw [pack, pack, Lists.eq_of_perm_of_sorted_key (·.1) hperm (((C09_sort_conserves_rows rows).map _).nodup_iff.mpr hnd)
      (sortRows_sorted rows) (sortRows_sorted rows')]

/-! non-vacuity: the hypotheses of `C09_input_partitioning_irrelevant` are satisfiable by a real reordering with distinct keys;
cutting a sorted five-row sequence at two points (the driver evaluates `pack` itself on every correspondence case) -/
example : ([(7, 0), (1, 1), (4, 2)] : List KRow).Perm [(4, 2), (7, 0), (1, 1)] ∧
    (([(7, 0), (1, 1), (4, 2)] : List KRow).map (·.1)).Nodup := by decide
example : cutAt [2, 3] 0 [(1, 1), (4, 2), (4, 4), (7, 0), (9, 3)] = [[(1, 1), (4, 2)], [(4, 4)], [(7, 0), (9, 3)]] := by decide

/-- packing what was packed before (with other keys: another curve order `p`, another active column, other total bounds): the packed
frame is one more arrangement of the same rows, so re-keying and packing it gives the key sequence - and, for distinct keys, the
partitions - of packing the original rows with the new keys (what D25 violated: the old keys were kept) -/
theorem C09_repack (cuts1 cuts2 : List Nat) (rows : List KRow) (rekey : KRow → KRow) :
    (sortRows (((pack cuts1 rows).flatten).map rekey)).map (·.1) = (sortRows (rows.map rekey)).map (·.1) ∧
    (((rows.map rekey).map (·.1)).Nodup →
      pack cuts2 (((pack cuts1 rows).flatten).map rekey) = pack cuts2 (rows.map rekey)) := by
  have hp : (((pack cuts1 rows).flatten).map rekey).Perm (rows.map rekey) := (C09_rows_conserved cuts1 rows).map rekey
  obtain ⟨h1, h2⟩ := C09_input_partitioning_irrelevant cuts2 _ _ hp
  refine ⟨h1, fun hn => h2 ?_⟩
  exact (hp.map (·.1)).nodup_iff.mpr hn

end SpVerif
