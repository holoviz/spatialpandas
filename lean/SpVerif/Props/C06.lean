import SpVerif.Props.C04
import SpVerif.Lemmas.DaskJoin
import SpVerif.Lemmas.HitBox
/-!
# C06 — a Dask geo frame answers exactly like the pandas frame it represents

Theorems about the partition model `Dask` (a frame = list of partitions = the concatenation): element-wise operations
commute with concatenation, the NaN-ignoring fold of the partition bounds is the total bounds of the concatenation, and partition
selection for `cx` / `cx_partitions` never drops a partition that holds an intersecting row, so the Dask `.cx` is the pandas `.cx` of
every partition (`C06_cx_exact`); the partition-wise `sjoin` with pruned right rows is the join of the concatenation
(`C06_sjoin_left`, `C06_sjoin_inner`).  Dask's graph construction and execution are what the correspondence exercises.
-/
namespace SpVerif
open Dask Geom Frames RTree

/-- a frame without partitions has NaN total bounds -/
theorem C06_no_partitions : daskTotalBounds [] = none := rfl

/-- element-wise maps (bounds, area, length, intersects_bounds): mapping every partition and concatenating is mapping the
concatenation -/
theorem C06_elementwise {α β : Type} (f : α → β) (parts : List (List α)) :
    (parts.map (fun p => p.map f)).flatten = parts.flatten.map f := by
  simp [List.map_flatten]

/-- `total_bounds`: the NaN-ignoring fold of the per-partition bounds equals the total bounds of the concatenated frame,
for every partitioning (empty and all-missing partitions contribute nothing) -/
theorem C06_total_bounds (parts : List Part) : daskTotalBounds parts = Dask.totalBounds parts.flatten :=
  Fold.foldl_map_flatten Dask.totalBounds totalBounds_append parts []

/-- cx_partitions / cx never lose a row: every partition that holds a row intersecting the (oriented) box is among the
partitions returned -/
theorem C06_cx_partitions_lose_no_row (b : Box) (hb : orientBox b = b) (parts : List Part) (i : Nat) (hi : i < parts.length)
    (e : Elem) (he : some e ∈ parts.getD i []) (hit : elemIB b (some e) = true) : i ∈ cxPartitions b parts := by
  obtain ⟨B, hB, ho⟩ := totalBounds_overlaps hb he hit
  rw [mem_cxPartitions, hB, boxOverlaps, ho]
  exact ⟨hi, rfl⟩

/-- Dask `.cx` is the partition-wise pandas `.cx`, pruning is invisible: the rows returned are exactly, partition after
partition and in their original order, the rows the pandas `.cx` selects in each partition - the partitions dropped by the
partition-level index contribute nothing -/
theorem C06_cx_exact (b : Box) (hb : orientBox b = b) (parts : List Part) :
    daskCx b parts = (List.range parts.length).flatMap (fun i => (cxMask b (parts.getD i [])).map (fun j => (i, j))) := by
  rw [daskCx, cxPartitions_eq_filter]
  -- a dropped partition selects nothing: a selected row would have kept it
  refine Lists.flatMap_filter_of_nil fun i hi hno => ?_
  rw [List.map_eq_nil_iff, List.eq_nil_iff_forall_not_mem]
  intro j hj
  rw [C04_cx_exact, List.mem_filter] at hj
  cases he : (parts.getD i []).getD j none with
  | none => rw [he] at hj; cases hj.2
  | some e =>
    have hk := C06_cx_partitions_lose_no_row b hb parts i (List.mem_range.mp hi) e (Lists.mem_of_getD_eq_some he) (he ▸ hj.2)
    rw [cxPartitions_eq_filter, List.mem_filter, hno] at hk
    exact Bool.false_ne_true hk.2

/-- only rows that intersect the box are returned, each from a kept partition -/
theorem C06_cx_sound (b : Box) (parts : List Part) (i j : Nat) (h : (i, j) ∈ daskCx b parts) :
    i ∈ cxPartitions b parts ∧ j ∈ cxMask b (parts.getD i []) := by
  simp only [daskCx, List.mem_flatMap, List.mem_map, Prod.mk.injEq] at h
  obtain ⟨i', hi', j', hj', rfl, rfl⟩ := h
  exact ⟨hi', hj'⟩

/-- sjoin, how='left': joining every partition on its own with the right rows whose box overlaps the partition's bounds
(`right_df.iloc[right_sindex.intersects(bounds)]`) and concatenating gives, row for row and in the same order, the left join of the
concatenated frame - for every split of the rows into partitions, empty and all-missing partitions included -/
theorem C06_sjoin_left (parts : List (List (Option Pt))) (right : List (Option Elem))
    (hw : ∀ e, some e ∈ right → Join.WFElem e) :
    DaskJoin.daskJoin .left right (DaskJoin.keepOverlap right) 0 parts = Join.join .left parts.flatten right := by
  rw [DaskJoin.daskJoin_left right _ parts 0 (fun P _ i j _ h => DaskJoin.keepOverlap_sound right hw P i j h),
    Join.join_left_rows]

/-- sjoin, how='inner': the same rows as the inner join of the concatenated frame (pandas orders them by right row, Dask by
partition: equal as multisets); partitions without any candidate contribute nothing, as when they are skipped -/
theorem C06_sjoin_inner (parts : List (List (Option Pt))) (right : List (Option Elem))
    (hw : ∀ e, some e ∈ right → Join.WFElem e) :
    (DaskJoin.daskJoin .inner right (DaskJoin.keepOverlap right) 0 parts).Perm (Join.join .inner parts.flatten right) :=
  (DaskJoin.daskJoin_inner right _ parts 0 (fun P _ i j _ h => DaskJoin.keepOverlap_sound right hw P i j h)).trans
    (Join.join_inner_rows _ right).symm

/-- any candidate set that contains the overlapping rows gives the same result (what the index returns for a NaN query box does
not matter) -/
theorem C06_sjoin_pruning_irrelevant (how : Join.How) (hhow : how ≠ .right) (P : List (Option Pt)) (right : List (Option Elem))
    (k : Nat → Bool) (hs : ∀ i j, i < P.length → Join.hit (P.getD i none) (right.getD j none) = true → k j = true) :
    DaskJoin.joinK how P right k = Join.join how P right :=
  DaskJoin.joinK_eq how hhow hs

/-! non-vacuity: two partitions (the second all missing), pruning drops the far polygon for the first partition -/
example : DaskJoin.keepOverlap [some (.polygon [[(0,0),(4,0),(4,4),(0,4),(0,0)]]), some (.polygon [[(50,50),(54,50),(54,54),(50,50)]])]
            [some (1, 1), some (3, 2)] 1 = false ∧
          DaskJoin.daskJoin .left [some (.polygon [[(0,0),(4,0),(4,4),(0,4),(0,0)]]), some (.polygon [[(50,50),(54,50),(54,54),(50,50)]])]
            (DaskJoin.keepOverlap [some (.polygon [[(0,0),(4,0),(4,4),(0,4),(0,0)]]), some (.polygon [[(50,50),(54,50),(54,54),(50,50)]])])
            0 [[some (1, 1), some (3, 2)], [none]] = [(some 0, some 0), (some 1, some 0), (some 2, none)] := by decide

/-! non-vacuity: three partitions, one of them without any bounds -/
example : daskTotalBounds [[some (.line [(0,0),(1,1)]), none], [none], [some (.line [(5,5),(6,6)]), some (.line [(2,2),(9,9)])]]
    = some [0, 0, 9, 9] := by decide

end SpVerif
