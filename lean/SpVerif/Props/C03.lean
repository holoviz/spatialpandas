import SpVerif.Lemmas.RTreeFill
/-!
# C03 — R-tree queries return exactly the intersecting / covered boxes

Theorems about the page-tree model `RTree` of `spatialindex/rtree.py`.  They hold for every tree shape (`PTree`) and in
particular for `buildTree ps sorted` with every page size `ps ≥ 1` and every arrangement `sorted` of the rows — the
Hilbert order for any `p` is one such arrangement, which is how independence of `p` is obtained.  Rows with undefined (NaN)
bounds are left out of the tree by `_build_hilbert_rtree` (the fix for D1), so they are never reported.
The array encoding `_NumbaRtree` uses - index arithmetic, the coded bottom-up fill of `bounds_tree`, the stack traversal - computes
the same queries (`C03_index_arithmetic` … `C03_array_queries`).
-/
namespace SpVerif
open RTree

theorem inside_imp_overlap {d : Nat} {q : NBox} {r : Row} (hw : WF d r.2) (h : inside d q r.2 = true) :
    (!outside d q r.2) = true := by simp [inside_not_outside hw h]

/-- `intersects` returns each row whose box overlaps the closed query box exactly once, and no other row -/
theorem C03_intersects_exact (d : Nat) (t : PTree) (q : NBox) (hw : ∀ r ∈ t.rows, WF d r.2) :
    (intersects d t q).Perm ((t.rows.filter (fun r => !outside d q r.2)).map (·.1)) := by
  simpa [intersects] using (query_filter d q (fun r => !outside d q r.2) true t fun x hx =>
    ⟨inside_imp_overlap (hw x hx), fun hp => by simpa using hp⟩).map (·.1)

/-- `covers_overlaps` splits exactly that set into the rows fully inside the query box and those only partially inside -/
theorem C03_covers_overlaps_exact (d : Nat) (t : PTree) (q : NBox) (hw : ∀ r ∈ t.rows, WF d r.2) :
    (coversOverlaps d t q).1.Perm ((t.rows.filter (fun r => inside d q r.2)).map (·.1)) ∧
    (coversOverlaps d t q).2.Perm ((t.rows.filter (fun r => !outside d q r.2 && !inside d q r.2)).map (·.1)) := by
  constructor
  · simpa [coversOverlaps] using (query_filter d q (fun r => inside d q r.2) true t fun x hx =>
      ⟨id, inside_not_outside (hw x hx)⟩).map (·.1)
  · simpa [coversOverlaps, Bool.not_or] using (query_filter d q (fun r => !outside d q r.2 && !inside d q r.2) false t
      fun x _ => ⟨fun hi => by simp [hi], fun hp => by simp only [Bool.and_eq_true, Bool.not_eq_true'] at hp; exact hp.1⟩).map (·.1)

/-- the answer does not depend on the curve order `p` (any arrangement of the rows) or on the page size -/
theorem C03_param_independent (d : Nat) (ps₁ ps₂ : Nat) (h₁ : 1 ≤ ps₁) (h₂ : 1 ≤ ps₂) (s₁ s₂ : List Row) (hp : s₁.Perm s₂)
    (hw : ∀ r ∈ s₁, WF d r.2) (q : NBox) :
    (intersects d (buildTree ps₁ s₁) q).Perm (intersects d (buildTree ps₂ s₂) q) := by
  have hw₂ : ∀ r ∈ s₂, WF d r.2 := fun r hr => hw r (hp.symm.subset hr)
  have a := C03_intersects_exact d (buildTree ps₁ s₁) q (by rw [buildTree_rows ps₁ h₁]; exact hw)
  have b := C03_intersects_exact d (buildTree ps₂ s₂) q (by rw [buildTree_rows ps₂ h₂]; exact hw₂)
  rw [buildTree_rows ps₁ h₁] at a
  rw [buildTree_rows ps₂ h₂] at b
  exact a.trans ((List.Perm.map _ (List.Perm.filter _ hp)).trans b.symm)

/-- the root box is NaN only if the tree holds no row; otherwise it contains every row's box -/
theorem C03_total_bounds (d : Nat) (t : PTree) :
    match totalBounds d t with
    | none => t.rows = []
    | some b => ∀ r ∈ t.rows, Sub d r.2 b := box_spec d t

/-- a tree without rows has an absent root: `total_bounds` is NaN -/
theorem C03_empty_total_bounds (d ps k : Nat) : totalBounds d (build ps k []) = none := by
  rw [totalBounds, box_eq_foldl, build_rows, List.take_nil]
  rfl

/-- index arithmetic of the array-encoded tree: in a `bounds_tree` of `2·2^D − 1` rows the node at depth `t`, position `j` is row
`2^t − 1 + j`; its children are the nodes at depth `t+1`, positions `2j` and `2j+1`; `_start_index` / `_stop_index` give exactly the
row positions of the pages below it, `[j·2^(D−t)·ps, (j+1)·2^(D−t)·ps)`; and the leaf test `stop − start ≤ page_size` holds exactly
for the nodes of the last level (`page_size ≥ 1`) -/
theorem C03_index_arithmetic (D ps t j : Nat) (hps : 1 ≤ ps) (ht : t ≤ D) (hj : j < 2 ^ t) :
    let len := 2 * 2 ^ D - 1
    let node := 2 ^ t - 1 + j
    RTreeIndex.leftChild node = 2 ^ (t + 1) - 1 + 2 * j ∧ RTreeIndex.rightChild node = 2 ^ (t + 1) - 1 + (2 * j + 1) ∧
    RTreeIndex.startIndex len ps len node = j * 2 ^ (D - t) * ps ∧
    RTreeIndex.stopIndex len ps len node = (j + 1) * 2 ^ (D - t) * ps ∧
    (RTreeIndex.stopIndex len ps len node - RTreeIndex.startIndex len ps len node ≤ ps ↔ t = D) :=
  RTreeIndex.index_arithmetic D ps t j hps ht hj

/-- the stack traversal over the array-encoded tree is the recursive query over the page tree: `_maybe_intersects_ranges` as
coded (a stack of node indices, `_start_index` / `_stop_index`, the leaf test `stop − start ≤ page_size`, children pushed right then
left, a NaN row treated as a covered range beyond the data), run on a `bounds_tree` that holds the boxes of the sub-trees, returns
exactly the covered rows and the maybe-rows of `query` - so the exactness theorems above are about what the array code computes -/
theorem C03_array_traversal (d : Nat) (q : NBox) (a : RTreeArr.Arr) (hps : 1 ≤ a.ps) (hold : a.Holds d) :
    RTreeArr.loop d q a a.len [0] ([], []) = query d q (build a.ps a.D a.rows) :=
  RTreeArr.loop_eq_query d q a hps hold

/-- the coded bottom-up pass fills `bounds_tree` with the boxes of the sub-trees: the array `np.full((tree_length, 2n), nan)`
after the page loop (one leaf row per page, absent pages left NaN) and the layer loops of `_build_hilbert_rtree` as coded (children
read from the array being filled, a NaN child ignored, nothing written when both are NaN, `start` / `stop` moved by `_parent`) holds
in row `2^t − 1 + j` the box of the sub-tree at depth `t`, position `j` - for every number of rows, page size and dimension.
`fillL` is the model the driver runs and the correspondence compares with the real `bounds_tree` -/
theorem C03_bottom_up_pass (d ps : Nat) (rows : List Row) (hps : 1 ≤ ps) :
    (RTreeFill.fillL d ps rows).length = 2 * 2 ^ clog2 (numPages rows.length ps) - 1 ∧
    ({ D := clog2 (numPages rows.length ps), ps := ps, bt := fun i => (RTreeFill.fillL d ps rows).getD i none, rows := rows } :
      RTreeArr.Arr).Holds d :=
  ⟨RTreeFill.fillL_length d ps rows, RTreeFill.fillL_holds d ps rows hps⟩

/-- end to end over the arrays: the traversal as coded over the `bounds_tree` produced by the coded bottom-up pass returns the
covered rows and the maybe-rows of the recursive query over `buildTree` - the tree of the exactness theorems -/
theorem C03_array_index_end_to_end (d ps : Nat) (q : NBox) (rows : List Row) (hps : 1 ≤ ps) :
    let a : RTreeArr.Arr := { D := clog2 (numPages rows.length ps), ps := ps,
                              bt := fun i => (RTreeFill.fillL d ps rows).getD i none, rows := rows }
    RTreeArr.loop d q a a.len [0] ([], []) = query d q (buildTree ps rows) :=
  RTreeArr.loop_eq_query d q _ hps (RTreeFill.fillL_holds d ps rows hps)

/-- the queries as the array code answers them are exact: `intersects` / `covers_overlaps` computed by the coded traversal over the
`bounds_tree` of the coded bottom-up pass are the queries of the page-tree model - so `C03_intersects_exact` and
`C03_covers_overlaps_exact` speak about them: each qualifying row exactly once, no other, for every arrangement of the rows (every `p`),
every page size and dimension -/
theorem C03_array_queries (d ps : Nat) (q : NBox) (rows : List Row) (hps : 1 ≤ ps) :
    let a : RTreeArr.Arr := { D := clog2 (numPages rows.length ps), ps := ps,
                              bt := fun i => (RTreeFill.fillL d ps rows).getD i none, rows := rows }
    RTreeArr.intersectsArr d a q = intersects d (buildTree ps rows) q ∧
    RTreeArr.coversOverlapsArr d a q = coversOverlaps d (buildTree ps rows) q := by
  intro a
  have h : RTreeArr.loop d q a a.len [0] ([], []) = query d q (buildTree ps rows) := C03_array_index_end_to_end d ps q rows hps
  unfold RTreeArr.intersectsArr RTreeArr.coversOverlapsArr intersects coversOverlaps
  rw [h]
  exact ⟨rfl, rfl⟩

/-! non-vacuity: the coded pass on three rows, page size 1 (depth 2, one absent page): root, two inner nodes, three leaves, a NaN row -/
example : RTreeFill.boundsTreeCoded 2 1 [(0, [0,0,1,1]), (1, [2,2,3,3]), (2, [0,2,1,5])] =
    [some [0,0,3,5], some [0,0,3,3], some [0,2,1,5], some [0,0,1,1], some [2,2,3,3], some [0,2,1,5], none] := by decide

/-! non-vacuity: three well-formed 2-d rows, page size 1 (depth 2), a query touching a row edge -/
example : intersects 2 (buildTree 1 [(0, [0,0,1,1]), (1, [2,2,3,3]), (2, [0,2,1,5])]) [1,1,2,2] = [0, 1, 2] := by decide

end SpVerif
