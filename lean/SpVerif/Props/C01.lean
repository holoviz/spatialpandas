import SpVerif.Lemmas.PolyBox
/-! C01: the box-intersection test is geometrically exact for every geometry type.  The kernel models of `Geom` (`intersection.py`)
over exact integer coordinates; the semantic side ("shares a point with the closed box") is stated with rational points, so it
covers every point of every segment.  Lines, rings, multilines and polygons need a box of positive width and height.  The closed
point set of a polygon is read as the points of its rings together with the points of non-zero winding number of all its rings
(`PolyPoint`).  The last step of the polygon kernel - testing the winding number at the four box corners only - is justified by
`windQ_const_box` and `windQ_far` (`Lemmas/WindQ.lean`, Appendix B of DESIGN.md).  That "non-zero winding number" is "inside the
shell and in none of the holes" for a valid polygon is C02's decision logic plus the Jordan curve theorem for simple rings, which
is not proved. -/
namespace SpVerif
open Geom

/-- `segments_intersect` is exact for two non-degenerate integer segments: True iff they share a point -/
theorem C01_segmentsIntersect_iff (a0 a1 b0 b1 : Pt) (ha : a0 ≠ a1) (hb : b0 ≠ b1) :
    segmentsIntersect a0 a1 b0 b1 = true ↔ SegMeet a0 a1 b0 b1 :=
  segmentsIntersect_iff a0 a1 b0 b1 ha hb

/-- lines and rings: for every box of positive width and height (corners in any order) the test is True exactly when the
closed point set of the line - its vertices and segments - shares a point with the closed box -/
theorem C01_line_exact (bx : Box) (hx : bx.x0 ≠ bx.x1) (hy : bx.y0 ≠ bx.y1) (l : List Pt) :
    lineIB bx l = true ↔ ∃ p, LinePoint l p ∧ InBoxQ (orientBox bx) p := by
  obtain ⟨px, py⟩ := orientBox_pos hx hy
  simp only [lineIB, zeroAreaBox_false px py, Bool.false_eq_true, if_false]
  exact lineIBcore_iff px py l

/-- multilines: True exactly when some part shares a point with the closed box -/
theorem C01_multiline_exact (bx : Box) (hx : bx.x0 ≠ bx.x1) (hy : bx.y0 ≠ bx.y1) (ls : List (List Pt)) :
    multilineIB bx ls = true ↔ ∃ l ∈ ls, ∃ p, LinePoint l p ∧ InBoxQ (orientBox bx) p := by
  obtain ⟨px, py⟩ := orientBox_pos hx hy
  simp only [multilineIB, zeroAreaBox_false px py, Bool.false_eq_true, if_false, List.any_eq_true, lineIBcore_iff px py]

/-- points (degenerate boxes included): True exactly when the point lies in the closed box -/
theorem C01_point_exact (bx : Box) (p : Pt) : pointIB bx p = true ↔ InBoxQ (orientBox bx) ((p.1 : ℚ), (p.2 : ℚ)) := by
  simp only [pointIB, inBox_iff, inBoxQ_cast]

/-- multipoints (degenerate boxes included): True exactly when one of the points lies in the closed box -/
theorem C01_multipoint_exact (bx : Box) (ps : List Pt) :
    multipointIB bx ps = true ↔ ∃ p ∈ ps, InBoxQ (orientBox bx) ((p.1 : ℚ), (p.2 : ℚ)) := by
  simp only [multipointIB, List.any_eq_true, inBox_iff, inBoxQ_cast]

/-- an element without vertices never intersects: the kernels see no vertex, the bbox is NaN -/
theorem C01_empty_false (b : Box) :
    lineIB b [] = false ∧ multilineIB b [] = false ∧ multipointIB b [] = false ∧
    polygonIB b [] = false ∧ polygonIB b [[]] = false ∧ multipolygonIB b [] = false ∧ multipolygonIB b [[]] = false := by
  refine ⟨?_, ?_, ?_, ?_, ?_, ?_, ?_⟩ <;>
    simp [lineIB, multilineIB, multipointIB, polygonIB, multipolygonIB, lineIBcore, polygonIBcore, bboxOf]

/-- corner order: the answer depends on the box only through its oriented form, so all four ways of giving the corners
agree, for every kind -/
theorem C01_corner_order (x0 y0 x1 y1 : Int) :
    orientBox ⟨x1, y0, x0, y1⟩ = orientBox ⟨x0, y0, x1, y1⟩ ∧ orientBox ⟨x0, y1, x1, y0⟩ = orientBox ⟨x0, y0, x1, y1⟩ ∧
    orientBox ⟨x1, y1, x0, y0⟩ = orientBox ⟨x0, y0, x1, y1⟩ := by
  simp only [orientBox_eq, Int.min_comm x1 x0, Int.max_comm x1 x0, Int.min_comm y1 y0, Int.max_comm y1 y0, and_self]

/-- polygons: for every box of positive width and height (corners in any order) and every polygon with closed rings whose
holes lie within the bounding box of the shell, the test is True exactly when the closed point set of the polygon - ring points
and points of non-zero winding number - shares a point with the closed box -/
theorem C01_polygon_exact (bx : Box) (hx : bx.x0 ≠ bx.x1) (hy : bx.y0 ≠ bx.y1) (shell : List Pt) (holes : List (List Pt))
    (hcl : ∀ r ∈ shell :: holes, Closed r) (hsh : bboxOf (shell :: holes).flatten = bboxOf shell) :
    polygonIB bx (shell :: holes) = true ↔ ∃ q : QPt, InBoxQ (orientBox bx) q ∧ PolyPoint (shell :: holes) q := by
  obtain ⟨px, py⟩ := orientBox_pos hx hy
  exact polygonIBcore_iff px py hcl hsh

/-- the polygons a multipolygon may consist of: a shell with holes, all rings closed, holes within the shell's bounding box -/
def PolyOK (rings : List (List Pt)) : Prop :=
  ∃ shell holes, rings = shell :: holes ∧ (∀ r ∈ shell :: holes, Closed r) ∧ bboxOf (shell :: holes).flatten = bboxOf shell

/-- multipolygons: True exactly when some part shares a point with the closed box -/
theorem C01_multipolygon_exact (bx : Box) (hx : bx.x0 ≠ bx.x1) (hy : bx.y0 ≠ bx.y1) (parts : List (List (List Pt)))
    (hok : ∀ part ∈ parts, PolyOK part) :
    multipolygonIB bx parts = true ↔ ∃ part ∈ parts, ∃ q : QPt, InBoxQ (orientBox bx) q ∧ PolyPoint part q := by
  obtain ⟨px, py⟩ := orientBox_pos hx hy
  rw [multipolygonIB, List.any_eq_true]
  refine exists_congr fun part => and_congr_right fun hp => ?_
  obtain ⟨shell, holes, rfl, hcl, hsh⟩ := hok part hp
  exact polygonIBcore_iff px py hcl hsh

/-! non-vacuity: a square with a square hole meets the hypotheses; a box inside the hole does not intersect, a box inside the
ring of material does -/
example : PolyOK [[(0,0),(9,0),(9,9),(0,9),(0,0)], [(3,3),(3,6),(6,6),(6,3),(3,3)]] := by
  refine ⟨_, _, rfl, ?_, by decide⟩
  intro r hr
  simp only [List.mem_cons, List.mem_nil_iff, or_false] at hr
  rcases hr with rfl | rfl <;> exact ⟨by decide, by decide⟩
example : polygonIB ⟨4, 4, 5, 5⟩ [[(0,0),(9,0),(9,9),(0,9),(0,0)], [(3,3),(3,6),(6,6),(6,3),(3,3)]] = false ∧
          polygonIB ⟨1, 1, 2, 2⟩ [[(0,0),(9,0),(9,9),(0,9),(0,0)], [(3,3),(3,6),(6,6),(6,3),(3,3)]] = true := by decide

/-- polygons, the vertex and edge tests alone (no hypothesis on the rings): whenever a vertex of some ring lies in the box, or a
ring segment passes an edge test, the polygon kernel answers True -/
theorem C01_polygon_boundary_partial (b : Box) (rings : List (List Pt)) (bb : Box) (hbb : bboxOf rings.flatten = some bb)
    (hout : bboxOutside bb b = false)
    (h : (∃ v ∈ rings.flatten, BoxHas b v) ∨ ∃ r ∈ rings, ∃ s ∈ segs r, segBoxEdges b s = true) :
    polygonIBcore b rings = true := by
  have : (rings.flatten.any (inBox b) || rings.any (fun r => (segs r).any (segBoxEdges b))) = true := by
    simpa only [Bool.or_eq_true, List.any_eq_true, inBox_iff] using h
  rw [polygonIBcore_eq hbb, hout, this, Bool.or_true, Bool.true_or]; rfl

/-! non-vacuity: a line whose only contact with the box is the interior of a segment passing through a box corner -/
example : lineIB ⟨3, 3, 1, 1⟩ [(0, 1), (1, 0)] = false ∧ lineIB ⟨3, 3, 1, 1⟩ [(0, 2), (2, 0)] = true ∧
    lineIB ⟨1, 1, 3, 3⟩ [(0, 2), (2, 4)] = true := by decide

end SpVerif
