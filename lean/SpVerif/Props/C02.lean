import SpVerif.Lemmas.Fan
import SpVerif.Model.GeomProto
/-! C02: point-versus-shape `intersects` is exact.  The kernels of `spatialpandas/geometry/_algorithms/intersection.py` as modelled
in `Model/Geom.lean`, with integer coordinates standing for the exactly representable coordinates the property quantifies over;
rational points (`ℚ × ℚ`) say what "lies on a segment" means.  Point, multipoint, line and multiline are exact.  For polygons the
edge rule of the winding loop is pinned down operator by operator, and the winding number of a closed ring is described locally
(zero outside the bounding box, constant on every box that contains no point of the ring, a jump by the edge's direction where one
edge is crossed: Appendix B of DESIGN.md, stated at rational points and tied to the coded loop by `C02_winding_rational`) and as
the signed cover by the fan triangles (`C02_signed_cover`); the decision logic "inside a shell and in none of its holes" follows
from the per-ring facts.
Not proved: the topological fact that for a simple ring every point off the ring can be joined to infinity crossing the ring
transversally an even / odd number of times (Jordan curve theorem); with it the proved facts characterise the winding number as ±1
inside and 0 outside.  The polygon clause is therefore `partial`, see DESIGN.md. -/
namespace SpVerif
open Geom

/-- point versus point: equality -/
theorem C02_point_point (p q : Pt) : pointPoint p q = true ↔ p = q := by simp [pointPoint]

/-- point versus multipoint: membership -/
theorem C02_point_multipoint (p : Pt) (qs : List Pt) : pointMultiPoint p qs = true ↔ p ∈ qs := by simp [pointMultiPoint]

/-- `segment_intersects_point` is exact: True exactly when the point lies on the closed segment (zero-length segments and
points collinear with the segment but beyond its end included) -/
theorem C02_segment_point (p : Pt) (s : Pt × Pt) : segPoint p s = true ↔ OnSeg s.1 s.2 ((p.1 : ℚ), (p.2 : ℚ)) :=
  segPoint_iff p s

/-- point versus line (and ring): True exactly when the point is a vertex or lies on a segment -/
theorem C02_point_line (p : Pt) (l : List Pt) : pointLine p l = true ↔ LinePoint l ((p.1 : ℚ), (p.2 : ℚ)) :=
  pointLine_iff p l

/-- point versus multiline: True exactly when it lies on one of the lines -/
theorem C02_point_multiline (p : Pt) (ls : List (List Pt)) :
    pointMultiLine p ls = true ↔ ∃ l ∈ ls, LinePoint l ((p.1 : ℚ), (p.2 : ℚ)) := by
  simp only [pointMultiLine, List.any_eq_true, pointLine_iff]

/-- the edge rule: the coded contribution of the directed edge `a → b` to the winding number at `p` is `+1` for an edge
that crosses the height of `p` upwards (half-open: `a.y < p.y ≤ b.y`) with `p` on its left or on it, `-1` for one that
crosses it downwards with `p` on its right or on it, and `0` otherwise — horizontal edges never count.  Every comparison
operator of `point_intersects_polygon` is fixed by this closed form. -/
theorem C02_edge_rule (p a b : Pt) :
    edgeContrib p a b =
      if a.2 < p.2 ∧ p.2 ≤ b.2 ∧ 0 ≤ orientI a b p then 1
      else if b.2 < p.2 ∧ p.2 ≤ a.2 ∧ orientI a b p ≤ 0 then -1 else 0 := edgeContrib_eq p a b

/-- geometric reading of the edge rule: an edge counts exactly when it spans the height of `p` (half-open at its lower
end, so a ray through a vertex counts the two edges at that vertex once if they continue through, twice or not at all if
they turn back) and its point at that height is at or to the right of `p` -/
theorem C02_edge_rule_geometric (p a b : Pt) :
    edgeContrib p a b ≠ 0 ↔ (min a.2 b.2 < p.2 ∧ p.2 ≤ max a.2 b.2) ∧ ∃ x : ℚ, (p.1 : ℚ) ≤ x ∧ OnSeg a b (x, (p.2 : ℚ)) :=
  edgeContrib_ne_zero_iff p a b

/-- a horizontal edge never contributes (the kernel skips it) -/
theorem C02_horizontal_edge_skipped (p a b : Pt) (h : a.2 = b.2) : edgeContrib p a b = 0 :=
  edgeContrib_level p a b (by rw [h])

/-- reversing an edge negates its contribution; walking a ring backwards negates its winding number -/
theorem C02_reversal (p : Pt) : (∀ a b, edgeContrib p b a = - edgeContrib p a b) ∧
    (∀ r, ringWinding p r.reverse = - ringWinding p r) :=
  ⟨edgeContrib_swap p, ringWinding_reverse p⟩

/-- far away: the winding number of a closed ring about a point outside its bounding box is zero -/
theorem C02_winding_far (p : Pt) (r : List Pt) (hc : Closed r) (bb : Box) (hbb : bboxOf r = some bb) (hout : ¬ BoxHas bb p) :
    ringWinding p r = 0 := ringWinding_far hc hbb hout

/-- the coded winding loop is the closed-form winding number `windQ` read at the point's (integer) coordinates -/
theorem C02_winding_rational (p : Pt) (r : List Pt) : ringWinding p r = windQ ((p.1 : ℚ), (p.2 : ℚ)) r := by
  rw [windQ_cast, ringWinding_eq]

/-- moving the point without touching the ring does not change the winding number: along a vertical segment (closed ring)
and along a horizontal segment that contain no point of any edge -/
theorem C02_winding_moves (r : List Pt) (hcl : Closed r) (x h h' x' : ℚ) :
    (h ≤ h' → (∀ s ∈ segs r, SlabClear s.1 s.2 x h h') → windQ (x, h') r = windQ (x, h) r) ∧
    (x ≤ x' → (∀ s ∈ segs r, RowClear s.1 s.2 x x' h) → windQ (x', h) r = windQ (x, h) r) :=
  ⟨windQ_vmove hcl, windQ_hmove⟩

/-- the winding number of a closed ring is constant on every box that contains no point of the ring -/
theorem C02_winding_constant_off_ring (r : List Pt) (hcl : Closed r) (b : Box) (hclear : BoxClear b r) (q1 q2 : QPt)
    (h1 : InBoxQ b q1) (h2 : InBoxQ b q2) : windQ q1 r = windQ q2 r :=
  windQ_const_box hcl hclear h1 h2

/-- far away, at rational points too -/
theorem C02_winding_far_rational (q : QPt) (r : List Pt) (hcl : Closed r) (bb : Box) (hbb : bboxOf r = some bb)
    (hout : ¬ InBoxQ bb q) : windQ q r = 0 := windQ_far hcl hbb hout

/-- jump: crossing exactly one edge transversally (at an interior point of the edge, no other edge touching the path) changes
the winding number by the direction of that edge: from left to right it drops by `+1` for an edge going up, `-1` for one going
down.  Together with `C02_winding_far` (zero far away) and `C02_winding_constant_off_ring` this is the complete local
description of the winding number on the complement of the ring.  (`hxx` follows from `hl` and `hr`, and `hspan` only says that
`gQ h b - gQ h a` is `±1`: the proof uses neither, see `windQ_jump`.) -/
theorem C02_winding_jump (l1 l2 : List Pt) (a b : Pt) (x x' h : ℚ) (hxx : x ≤ x')
    (hspan : ((a.2 : ℚ) < h ∧ h < b.2) ∨ ((b.2 : ℚ) < h ∧ h < a.2)) (hl : x < xAt a b h) (hr : xAt a b h < x')
    (hc1 : ∀ s ∈ segs (l1 ++ [a]), RowClear s.1 s.2 x x' h) (hc2 : ∀ s ∈ segs (b :: l2), RowClear s.1 s.2 x x' h) :
    windQ (x, h) (l1 ++ a :: b :: l2) - windQ (x', h) (l1 ++ a :: b :: l2) = gQ h b - gQ h a :=
  windQ_jump hl hr hc1 hc2

theorem pointPolygon_single (p : Pt) (r : List Pt) : pointPolygon p [r] = (windSum p r != 0) := by
  rw [pointPolygon, pointInRings, winding_eq_sum, List.map_cons, List.map_nil, List.sum_cons, List.sum_nil, add_zero, ringWinding_eq]

/-- triangles: about a point strictly inside a triangle (strictly on the same side of all three edges) the coded winding
number is the triangle's orientation, `+1` counter-clockwise and `-1` clockwise - so `point_intersects_polygon` answers True -/
theorem C02_triangle_inside (a b c p : Pt) :
    (0 < orientI a b p → 0 < orientI b c p → 0 < orientI c a p → ringWinding p [a, b, c, a] = 1) ∧
    (orientI a b p < 0 → orientI b c p < 0 → orientI c a p < 0 → ringWinding p [a, b, c, a] = -1) ∧
    (((0 < orientI a b p ∧ 0 < orientI b c p ∧ 0 < orientI c a p) ∨ (orientI a b p < 0 ∧ orientI b c p < 0 ∧ orientI c a p < 0)) →
      pointPolygon p [[a, b, c, a]] = true) := by
  simp only [ringWinding_eq, pointPolygon_single]
  refine ⟨triangle_ccw_inside a b c p, triangle_cw_inside a b c p, ?_⟩
  rintro (⟨h1, h2, h3⟩ | ⟨h1, h2, h3⟩)
  · rw [triangle_ccw_inside a b c p h1 h2 h3]; rfl
  · rw [triangle_cw_inside a b c p h1 h2 h3]; rfl

/-- triangles, outside: about a point strictly on the wrong side of some edge of a non-degenerate triangle the winding number
is `0`, in either orientation - so, off the boundary, `point_intersects_polygon` is exactly "strictly inside the triangle" -/
theorem C02_triangle_outside (a b c p : Pt) :
    (0 < orientI a b c → (orientI a b p < 0 ∨ orientI b c p < 0 ∨ orientI c a p < 0) → pointPolygon p [[a, b, c, a]] = false) ∧
    (orientI a b c < 0 → (0 < orientI a b p ∨ 0 < orientI b c p ∨ 0 < orientI c a p) → pointPolygon p [[a, b, c, a]] = false) := by
  simp only [pointPolygon_single]
  exact ⟨fun hA hout => by rw [triangle_winding_zero a b c p (by omega) (by omega)]; rfl,
    fun hA hout => by rw [triangle_winding_zero a b c p (by omega) (by omega)]; rfl⟩

/-- fan decomposition (any ring `v0 :: l ++ [v0]` with `l ≠ []`, any point): the coded winding number of the closed ring
`v0, v1, …, vk, v0` is the sum of the coded winding numbers of the fan triangles `v0, vi, vi+1, v0`; the contributions of the
diagonals cancel exactly (`edgeContrib` is antisymmetric under reversal even for a point on the diagonal) -/
theorem C02_fan_decomposition (p v0 : Pt) (l : List Pt) (hl : l ≠ []) :
    ringWinding p (v0 :: l ++ [v0]) = fanSum p v0 l := by
  rw [ringWinding_eq]; exact fan_decomposition p v0 l hl

/-- signed covering number (what the winding number means, for every ring in general position with respect to the point):
if `p` lies on the boundary of no non-degenerate fan triangle `v0, vi, vi+1`, the coded winding number is the number of
counter-clockwise fan triangles that contain `p` strictly minus the number of clockwise ones (a degenerate triangle contributes 0
about every point) - the classical signed area cover, for self-intersecting and non-convex rings alike, without the Jordan
curve theorem.  In particular `point_intersects_polygon` on one ring answers True exactly when that signed count is non-zero -/
theorem C02_signed_cover (p v0 : Pt) (l : List Pt) (hl : l ≠ []) (hg : FanGeneral p v0 l) :
    ringWinding p (v0 :: l ++ [v0]) = coverSum p v0 l ∧
    (pointPolygon p [v0 :: l ++ [v0]] = true ↔ coverSum p v0 l ≠ 0) := by
  rw [pointPolygon_single, ringWinding_eq, signed_cover p v0 l hl hg, bne_iff_ne]
  exact ⟨rfl, Iff.rfl⟩

/-! non-vacuity: a non-convex ring whose fan from `(0,0)` has a clockwise triangle; `(3,2)` is inside the ring (cover +1),
`(2,3)` lies in the notch (cover 0) -/
example : FanGeneral (3, 2) (0, 0) [(4,0),(4,4),(2,1),(0,4)] ∧ coverSum (3, 2) (0, 0) [(4,0),(4,4),(2,1),(0,4)] = 1 ∧
          FanGeneral (2, 3) (0, 0) [(4,0),(4,4),(2,1),(0,4)] ∧ coverSum (2, 3) (0, 0) [(4,0),(4,4),(2,1),(0,4)] = 0 ∧
          triCover (3, 2) (0, 0) (4, 4) (2, 1) = 0 ∧ orientI (0, 0) (4, 4) (2, 1) < 0 := by
  simp [FanGeneral, OffBoundary, coverSum, triCover, orientI]

theorem sum_of_pairwise {α : Type} (f : α → Int) : ∀ l : List α, l.Pairwise (fun a b => ¬ (f a ≠ 0 ∧ f b ≠ 0)) →
    ((l.map f).sum = 0 ∧ ∀ a ∈ l, f a = 0) ∨ ∃ a ∈ l, f a ≠ 0 ∧ (l.map f).sum = f a
  | [], _ => Or.inl ⟨rfl, fun _ h => absurd h List.not_mem_nil⟩
  | x :: xs, hd => by
    obtain ⟨hx, hxs⟩ := List.pairwise_cons.1 hd
    rw [List.map_cons, List.sum_cons]
    rcases sum_of_pairwise f xs hxs with ⟨s0, hall⟩ | ⟨a, ha, hne, hs⟩
    · by_cases h0 : f x = 0
      · exact Or.inl ⟨by omega, List.forall_mem_cons.2 ⟨h0, hall⟩⟩
      · exact Or.inr ⟨x, List.mem_cons_self, h0, by omega⟩
    · have h0 : f x = 0 := by_contra fun h => hx a ha ⟨h, hne⟩
      exact Or.inr ⟨a, List.mem_cons_of_mem _ ha, hne, by omega⟩

/-- polygon with holes: let `ins r` say whether `p` is strictly inside ring `r`.  If the shell's winding number about `p`
is `o·[p inside shell]` and every hole's is `-o·[p inside hole]` (`o = ±1`: holes wound opposite to their shell, either way
round — the per-ring fact), at most one hole contains `p` (holes disjoint) and a point inside a hole is inside the shell
(holes inside their shell), then the kernel answers True exactly when `p` is inside the shell and in none of its holes. -/
theorem C02_polygon_logic (p : Pt) (shell : List Pt) (holes : List (List Pt)) (ins : List Pt → Bool) (o : Int)
    (ho : o = 1 ∨ o = -1)
    (hs : ringWinding p shell = if ins shell then o else 0)
    (hh : ∀ h ∈ holes, ringWinding p h = if ins h then -o else 0)
    (hd : holes.Pairwise (fun h1 h2 => ¬ (ins h1 = true ∧ ins h2 = true)))
    (hin : ∀ h ∈ holes, ins h = true → ins shell = true) :
    pointPolygon p (shell :: holes) = true ↔ (ins shell = true ∧ ∀ h ∈ holes, ins h = false) := by
  have ho' : o ≠ 0 := by omega
  -- with every hole's winding number in its closed form, at most one term of the sum over the holes is not zero
  rw [pointPolygon, pointInRings, winding_eq_sum, bne_iff_ne, List.map_cons, List.sum_cons, hs, List.map_congr_left hh]
  rcases sum_of_pairwise (fun h => if ins h then -o else 0) holes
      (hd.imp fun h c => h ⟨by simpa [ho'] using c.1, by simpa [ho'] using c.2⟩) with ⟨s0, hall⟩ | ⟨h, hm, h0, s1⟩
  · -- no hole holds `p`
    have hall' : ∀ h ∈ holes, ins h = false := fun h hm => by simpa [ho'] using hall h hm
    rw [s0, add_zero]
    cases ins shell
    · simp
    · simpa [ho'] using hall'
  · -- one does; it is inside the shell and cancels it
    have hi : ins h = true := by simpa [ho'] using h0
    rw [s1, hi, hin h hm hi]
    simpa using ⟨h, hm, hi⟩

/-- multipolygon: the winding number of a multipolygon is the sum over its parts, so when at most one part has `p` in its
region (parts with disjoint interiors) the kernel answers True exactly when some part does -/
theorem C02_multipolygon_logic (p : Pt) (parts : List (List (List Pt)))
    (hd : parts.Pairwise (fun a b => ¬ (winding p a ≠ 0 ∧ winding p b ≠ 0))) :
    pointMultiPolygon p parts = true ↔ ∃ part ∈ parts, pointPolygon p part = true := by
  have hsum : winding p parts.flatten = (parts.map (winding p)).sum := by
    rw [winding_eq_sum, List.map_flatten, List.sum_flatten, List.map_map]
    exact congrArg _ (List.map_congr_left fun a _ => (winding_eq_sum p a).symm)
  simp only [pointMultiPolygon, pointPolygon, pointInRings, hsum, bne_iff_ne]
  rcases sum_of_pairwise (winding p) parts hd with ⟨s0, hall⟩ | ⟨a, ha, hne, s1⟩
  · rw [s0]; exact ⟨fun h => absurd rfl h, fun ⟨a, ha, h⟩ => absurd (hall a ha) h⟩
  · rw [s1]; exact ⟨fun _ => ⟨a, ha, hne⟩, fun _ => hne⟩

/-- a missing point gives False in the array forms: the kernels are never run for it -/
theorem C02_missing_false {α} (dec : Proto.V → Option α) (f : α → Bool) (els : List Proto.V) :
    GeomProto.mapEl dec f false (Proto.V.none :: els) = (GeomProto.mapEl dec f false els).map (false :: ·) := by
  simp only [GeomProto.mapEl, List.mapM_cons]
  cases List.mapM (m := Option) _ els <;> rfl

/-! non-vacuity -/
example : pointPolygon (2, 2) [[(0,0),(6,0),(6,6),(0,6),(0,0)], [(1,1),(1,3),(3,3),(3,1),(1,1)]] = false ∧
          pointPolygon (4, 4) [[(0,0),(6,0),(6,6),(0,6),(0,0)], [(1,1),(1,3),(3,3),(3,1),(1,1)]] = true ∧
          ringWinding (4, 4) [(0,0),(6,0),(6,6),(0,6),(0,0)] = 1 ∧ ringWinding (2, 2) [(1,1),(1,3),(3,3),(3,1),(1,1)] = -1 := by decide
example : pointLine (2, 2) [(0,0),(4,4)] = true ∧ pointLine (5, 5) [(0,0),(4,4)] = false := by decide

end SpVerif
