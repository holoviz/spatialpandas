import SpVerif.Props.C06
import SpVerif.Props.C05
/-!
# C17 — missing and empty geometries are inert

Corollaries over the models of the other properties: an inert element (missing, or without any vertex) satisfies no predicate,
has no bounds, contributes nothing to the total bounds, is never matched by the join, and removing inert rows does not change
what the remaining rows give.  (Index queries: rows without bounds are not in the tree at all — `_build_hilbert_rtree` drops
them — so C03 applies to the remaining rows verbatim.)
-/
namespace SpVerif
open Geom Frames Dask Join RTree

def Inert : Option Elem → Prop
  | none => True
  | some e => elemVerts e = []

/-- an inert element reports NaN bounds -/
theorem C17_bounds (e : Option Elem) (h : Inert e) : elemBounds e = none := by
  cases e with
  | none => rfl
  | some e => simp only [Inert] at h; simp [elemBounds, h, bboxOf]

/-- an inert element never intersects any box -/
theorem C17_box_test (b : Box) (e : Option Elem) (h : Inert e) : elemIB b e = false :=
  elemIB_of_bounds_none (C17_bounds e h)

/-- a missing point / shape never matches in the join -/
theorem C17_sjoin (p : Option Pt) (s : Option Elem) : hit none s = false ∧ hit p none = false :=
  C05_missing_never_matches p s

/-- inert rows contribute nothing to total_bounds: inserting them anywhere leaves it unchanged -/
theorem C17_total_bounds (xs ys : List (Option Elem)) (e : Option Elem) (h : Inert e) :
    Dask.totalBounds (xs ++ e :: ys) = Dask.totalBounds (xs ++ ys) := by
  rw [totalBounds_append, totalBounds_append, totalBounds_cons, C17_bounds e h, unionOpt_none_left]

/-- the elements `.cx` selects are the elements that intersect the box, in order: never an inert one (`C17_box_test`), and the same
ones when inert rows are removed (`C17_cx_inert_removed`; positions shift) -/
theorem C17_cx (b : Box) (els : List (Option Elem)) :
    ((cxMask b els).map (fun i => els.getD i none)) = els.filter (fun e => elemIB b e) := by
  rw [C04_cx_exact]
  exact (List.filter_map (p := elemIB b)).symm.trans (congrArg _ (Lists.map_getD_range els none))

theorem C17_cx_inert_removed (b : Box) (xs ys : List (Option Elem)) (e : Option Elem) (h : Inert e) :
    (xs ++ e :: ys).filter (fun x => elemIB b x) = (xs ++ ys).filter (fun x => elemIB b x) := by
  simp [List.filter_append, C17_box_test b e h]

/-- a missing right row is in no pair of the join's pair table -/
theorem C17_sjoin_inert_right (left : List (Option Pt)) (right : List (Option Elem)) (i j : Nat)
    (hj : right.getD j none = none) : (i, j) ∉ pairs left right := fun hp => by
  have := ((C05_pairs_exact left right i j).mp hp).2.2
  rw [hj, (C05_missing_never_matches (left.getD i none) none).2] at this
  cases this

/-- the same in the Dask join: no row of the Dask left / inner join pairs a missing right row with anything, whatever the partitioning
and the candidate pruning (Dask join = pandas join of the concatenation, C06) -/
theorem C17_dask_sjoin_inert_right (parts : List (List (Option Pt))) (right : List (Option Elem))
    (hw : ∀ e, some e ∈ right → Join.WFElem e) (i j : Nat) (hj : right.getD j none = none) :
    (some i, some j) ∉ DaskJoin.daskJoin .left right (DaskJoin.keepOverlap right) 0 parts ∧
    (some i, some j) ∉ DaskJoin.daskJoin .inner right (DaskJoin.keepOverlap right) 0 parts := by
  have hno := C17_sjoin_inert_right parts.flatten right i j hj
  constructor
  · rw [C06_sjoin_left parts right hw, C05_left]
    rintro (⟨i', j', hp, he⟩ | ⟨_, _, _, he⟩)
    · cases he; exact hno hp
    · cases he
  · rw [(C06_sjoin_inner parts right hw).mem_iff, C05_inner, List.mem_map]
    rintro ⟨⟨i', j'⟩, hp, he⟩
    cases he; exact hno hp

end SpVerif
