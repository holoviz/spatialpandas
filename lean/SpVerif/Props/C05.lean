import SpVerif.Lemmas.Join
import SpVerif.Lemmas.HitBox
/-!
# C05 — spatial join returns exactly the intersecting (left, right) pairs

Theorems about the join model `Join`: the pair table is exactly `{(i, j) | hit left[i] right[j]}`, each pair once; the three
join shapes keep every pair and add exactly one unmatched row per unmatched left (resp. right) row.  The candidate filter through
the spatial index loses no pair (`C05_index_prefilter_exact`).  `hit` is the exact predicate of C02 (`Geom.point*`).  pandas'
`merge` is modelled relationally (trusted base, compared on every run).
-/
namespace SpVerif
open Join Geom Frames

/-- a missing geometry on either side never matches -/
theorem C05_missing_never_matches (p : Option Pt) (s : Option Elem) : hit none s = false ∧ hit p none = false := by
  constructor
  · rfl
  · cases p <;> rfl

/-- the pair table is exactly the set of intersecting (left, right) positions -/
theorem C05_pairs_exact (left : List (Option Pt)) (right : List (Option Elem)) (i j : Nat) :
    (i, j) ∈ pairs left right ↔ i < left.length ∧ j < right.length ∧ hit (left.getD i none) (right.getD j none) = true := by
  unfold pairs
  simp only [List.mem_flatMap, List.mem_range, List.mem_map, List.mem_filter, Prod.mk.injEq]
  constructor
  · rintro ⟨j', hj', i', ⟨hi', hh⟩, rfl, rfl⟩
    exact ⟨hi', hj', hh⟩
  · rintro ⟨hi, hj, hh⟩
    exact ⟨j, hj, i, ⟨hi, hh⟩, rfl, rfl⟩

/-- no pair is duplicated -/
theorem C05_pairs_nodup (left : List (Option Pt)) (right : List (Option Elem)) : (pairs left right).Nodup := by
  unfold pairs
  rw [List.nodup_flatMap]
  constructor
  · intro j _
    exact List.Nodup.map (fun a b h => by simpa using h) (List.Nodup.filter _ List.nodup_range)
  · apply List.Pairwise.imp_of_mem _ (List.nodup_range (n := right.length))
    intro j j' _ _ hne
    simp only [Function.onFun, List.disjoint_left, List.mem_map, List.mem_filter, List.mem_range]
    rintro ⟨a, b⟩ ⟨i, _, h1⟩ ⟨i', _, h2⟩
    simp only [Prod.mk.injEq] at h1 h2
    exact hne (h1.2.trans h2.2.symm)

/-- `inner`: exactly one row per intersecting pair -/
theorem C05_inner (left : List (Option Pt)) (right : List (Option Elem)) :
    join .inner left right = (pairs left right).map (fun p => (some p.1, some p.2)) := by
  simp [join]

/-- `left`: the rows are exactly one row per intersecting pair plus one row `(i, missing)` for every left row without a partner -/
theorem C05_left (left : List (Option Pt)) (right : List (Option Elem)) (x : Option Nat × Option Nat) :
    x ∈ join .left left right ↔
      (∃ i j, (i, j) ∈ pairs left right ∧ x = (some i, some j)) ∨
      (∃ i, i < left.length ∧ (∀ j, (i, j) ∉ pairs left right) ∧ x = (some i, none)) := by
  rw [join_left_eq_group]
  refine (mem_flatMap_group fun p hp => ((C05_pairs_exact left right p.1 p.2).mp hp).1).trans ?_
  simp only [Prod.exists, Prod.forall, ne_eq]
  refine or_congr Iff.rfl (exists_congr fun i => and_congr_right fun _ => and_congr_left fun _ => ?_)
  exact ⟨fun h j hj => h i j hj rfl, fun h a j hj e => h j (e ▸ hj)⟩

/-- `right`: one row per intersecting pair plus one row `(missing, j)` for every right row without a partner -/
theorem C05_right (left : List (Option Pt)) (right : List (Option Elem)) (x : Option Nat × Option Nat) :
    x ∈ join .right left right ↔
      (∃ i j, (i, j) ∈ pairs left right ∧ x = (some i, some j)) ∨
      (∃ j, j < right.length ∧ (∀ i, (i, j) ∉ pairs left right) ∧ x = (none, some j)) := by
  rw [join_right_eq_group]
  refine (mem_flatMap_group fun p hp => ((C05_pairs_exact left right p.1 p.2).mp hp).2.1).trans ?_
  simp only [Prod.exists, Prod.forall, ne_eq]
  refine or_congr Iff.rfl (exists_congr fun j => and_congr_right fun _ => and_congr_left fun _ => ?_)
  exact ⟨fun h i hi => h i j hi rfl, fun h i b hb e => h i (e ▸ hb)⟩

/-- no row of any join shape is duplicated (each pair exactly once, each unmatched row exactly once) -/
theorem C05_join_nodup (how : How) (left : List (Option Pt)) (right : List (Option Elem)) : (join how left right).Nodup := by
  have hp := C05_pairs_nodup left right
  cases how with
  | inner => exact hp.map fun p q h => Prod.ext (Option.some.inj (congrArg Prod.fst h)) (Option.some.inj (congrArg Prod.snd h))
  | left => exact join_left_eq_group .. ▸ nodup_flatMap_group Prod.fst (fun _ => rfl) (fun _ => rfl) hp
  | right => exact join_right_eq_group .. ▸ nodup_flatMap_group Prod.snd (fun _ => rfl) (fun _ => rfl) hp

/-- the candidate filter loses no pair: the pair table as `_sjoin_pandas_pandas` computes it - right rows with NaN bounds
skipped, for every other right row only the left rows that the spatial index reports for its bounds (by C03: those whose box
overlaps), then the exact predicate - is the table of all hits, because a point that intersects a shape lies in the shape's
bounding box (`Join.hit_in_bbox`: equality / membership / a point of a line lies in the line's box / winding number 0 outside the
box of a closed ring).  Polygon rings are closed (`WFElem`) -/
theorem C05_index_prefilter_exact (left : List (Option Pt)) (right : List (Option Elem))
    (hw : ∀ e, some e ∈ right → WFElem e) : DaskJoin.pairsIdx left right = pairs left right :=
  DaskJoin.pairsIdx_eq left right hw

/-! non-vacuity: the candidate filter really filters (two of three left rows are no candidates for the polygon), and an unclosed
ring shows why `WFElem` is needed: the coded winding number is non-zero far to the left of a single upward edge -/
example : DaskJoin.cand [some (1, 1), none, some (9, 9)] [0, 0, 4, 4] = [0] ∧
          DaskJoin.pairsIdx [some (1, 1), none, some (9, 9)] [some (.polygon [[(0,0),(4,0),(4,4),(0,4),(0,0)]])] = [(0, 0)] ∧
          hit (some (-5, 1)) (some (.polygon [[(0,0),(0,2)]])) = true := by decide

/-! non-vacuity: a point matching two overlapping polygons, a missing point, an unmatched polygon -/
example : join .left [some (1, 1), none, some (9, 9)]
    [some (.polygon [[(0,0),(4,0),(4,4),(0,4),(0,0)]]), some (.polygon [[(0,0),(2,0),(2,2),(0,2),(0,0)]])]
    = [(some 0, some 0), (some 0, some 1), (some 1, none), (some 2, none)] := by decide

end SpVerif
