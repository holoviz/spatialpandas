import SpVerif.Lemmas.PolyBox
/-! C15: `oriented()` normalises ring direction without changing the shape.  `Geom.orientRings` is the abstract effect of
`orient_polygons` on the rings of one polygon (ring 0 = shell, the others holes; `flip = (is_ccw != expected_ccw) & (area != 0)` —
the code as repaired by the fix for D12).  A ring is well formed when it is closed (first vertex = last) or has fewer than three
stored vertices (then its coded area is 0 and it is never touched).  Missing elements never reach this function (`oriented()`
re-applies the validity mask). -/
namespace SpVerif
open Geom

def WellFormed (r : List Pt) : Prop := r.length < 3 ∨ Closed r

/-- `oriented()` keeps the number of rings of every polygon -/
theorem C15_ring_count (rings : List (List Pt)) : (orientRings rings).length = rings.length := by
  cases rings with
  | nil => rfl
  | cons shell holes => exact congrArg Nat.succ (List.length_map _)

/-- every ring keeps exactly its vertices, in the same order or reversed -/
theorem C15_vertices (rings : List (List Pt)) (i : Nat) (h : i < rings.length) :
    (orientRings rings).getD i [] = rings.getD i [] ∨ (orientRings rings).getD i [] = (rings.getD i []).reverse := by
  match rings, i with
  | shell :: holes, 0 => exact (ite_eq_or_eq _ _ _).symm
  | shell :: holes, (j+1) =>
    simp only [orientRings, List.getD_cons_succ]
    have hj : j < holes.length := by simpa using h
    simp only [List.getD_eq_getElem?_getD, List.getElem?_map, List.getElem?_eq_getElem hj, Option.map_some, Option.getD_some]
    exact (ite_eq_or_eq _ _ _).symm

theorem area_shell {r : List Pt} (h : WellFormed r) : ringArea2 (if ringArea2 r < 0 then r.reverse else r) = |ringArea2 r| := by
  split_ifs with c
  · rw [ringArea2_reverse h, abs_of_neg c]
  · rw [abs_of_nonneg (not_lt.1 c)]

theorem area_hole {r : List Pt} (h : WellFormed r) : ringArea2 (if ringArea2 r > 0 then r.reverse else r) = - |ringArea2 r| := by
  split_ifs with c
  · rw [ringArea2_reverse h, abs_of_pos c]
  · rw [abs_of_nonpos (not_lt.1 c), neg_neg]

/-- orientation: afterwards the shell has non-negative coded area (counter-clockwise when its area is non-zero) and every
hole non-positive area (clockwise when non-zero) -/
theorem C15_orientation (shell : List Pt) (holes : List (List Pt)) (hs : WellFormed shell) (hh : ∀ h ∈ holes, WellFormed h) :
    match orientRings (shell :: holes) with
    | s' :: hs' => 0 ≤ ringArea2 s' ∧ (ringArea2 shell ≠ 0 → 0 < ringArea2 s') ∧
                   ∀ h' ∈ hs', ringArea2 h' ≤ 0
    | [] => False := by
  simp only [orientRings, area_shell hs]
  refine ⟨abs_nonneg _, abs_pos.2, fun h' hm => ?_⟩
  obtain ⟨h, hin, rfl⟩ := List.mem_map.1 hm
  rw [area_hole (hh h hin)]
  exact neg_nonpos.2 (abs_nonneg _)

theorem wf_reverse (r : List Pt) (h : WellFormed r) : WellFormed r.reverse := by
  rcases h with h | h
  · left; simpa using h
  · right; exact closed_reverse h

theorem orientRings_of_oriented {shell : List Pt} {holes : List (List Pt)} (h0 : 0 ≤ ringArea2 shell)
    (hneg : ∀ h ∈ holes, ringArea2 h ≤ 0) : orientRings (shell :: holes) = shell :: holes := by
  rw [orientRings, if_neg (not_lt.2 h0)]
  exact congrArg _ ((List.map_congr_left fun h hm => if_neg (not_lt.2 (hneg h hm))).trans (List.map_id _))

/-- idempotence: orienting an oriented polygon changes nothing -/
theorem C15_idempotent (rings : List (List Pt)) (hw : ∀ r ∈ rings, WellFormed r) :
    orientRings (orientRings rings) = orientRings rings := by
  match rings with
  | [] => rfl
  | shell :: holes =>
    have h := C15_orientation shell holes (hw shell List.mem_cons_self) fun h hm => hw h (List.mem_cons_of_mem _ hm)
    rw [orientRings] at h ⊢
    exact orientRings_of_oriented h.1 h.2.2

theorem orientRings_of_reversed {shell : List Pt} {holes : List (List Pt)} (h0 : ringArea2 shell < 0)
    (hpos : ∀ h ∈ holes, 0 < ringArea2 h) : orientRings (shell :: holes) = (shell :: holes).map List.reverse := by
  rw [orientRings, if_pos h0]
  exact congrArg _ (List.map_congr_left fun h hm => if_pos (hpos h hm))

/-- a polygon wound the other way round: every ring is reversed, except rings of area 0; so a quantity `F` that reversal negates
and that vanishes on rings of area 0 is negated as a whole -/
theorem orientRings_sum_neg (F : List Pt → Int) {shell : List Pt} {holes : List (List Pt)} (h0 : ringArea2 shell ≤ 0)
    (hpos : ∀ h ∈ holes, 0 ≤ ringArea2 h) (hrev : ∀ r ∈ shell :: holes, F r.reverse = - F r)
    (hz : ∀ r ∈ shell :: holes, ringArea2 r = 0 → F r = 0) :
    ((orientRings (shell :: holes)).map F).sum = - ((shell :: holes).map F).sum := by
  have hs : F (if ringArea2 shell < 0 then shell.reverse else shell) = - F shell := by
    split_ifs with c
    · exact hrev shell (by simp)
    · rw [hz shell (by simp) (by omega)]; rfl
  have hh : ∀ h ∈ holes, F (if ringArea2 h > 0 then h.reverse else h) = - F h := by
    intro h hm
    split_ifs with c
    · exact hrev h (List.mem_cons_of_mem _ hm)
    · rw [hz h (List.mem_cons_of_mem _ hm) (by have := hpos h hm; omega)]; rfl
  simp only [orientRings, List.map_cons, List.sum_cons, List.map_map, hs, neg_add, List.sum_neg]
  exact congrArg _ (congrArg _ (List.map_congr_left hh))

/-- for a polygon whose holes are wound opposite to its shell (either way round) the total coded area keeps its magnitude (every
ring's does: `area_shell`, `area_hole`) -/
theorem C15_area_magnitude (shell : List Pt) (holes : List (List Pt)) (hs : WellFormed shell)
    (hh : ∀ h ∈ holes, WellFormed h)
    (hcons : (0 ≤ ringArea2 shell ∧ ∀ h ∈ holes, ringArea2 h ≤ 0) ∨ (ringArea2 shell ≤ 0 ∧ ∀ h ∈ holes, 0 ≤ ringArea2 h)) :
    area2 (orientRings (shell :: holes)) = area2 (shell :: holes) ∨ area2 (orientRings (shell :: holes)) = - area2 (shell :: holes) := by
  rcases hcons with ⟨h0, hneg⟩ | ⟨h0, hpos⟩
  · exact Or.inl (by rw [orientRings_of_oriented h0 hneg])
  · refine Or.inr (orientRings_sum_neg ringArea2 h0 hpos (fun r hr => ringArea2_reverse ?_) (fun _ _ e => e))
    rcases List.mem_cons.1 hr with rfl | hr
    exacts [hs, hh r hr]

/-- intersection results are unchanged (point-in-polygon, hence `intersects` and `sjoin`): for a polygon whose holes are
wound opposite to its shell (either way round) and whose zero-area rings do not wind around `p`, the winding number about
every point is kept or negated as a whole, so `point_intersects_polygon` gives the same answer before and after -/
theorem C15_point_intersection_unchanged (p : Pt) (shell : List Pt) (holes : List (List Pt))
    (hcons : (0 ≤ ringArea2 shell ∧ ∀ h ∈ holes, ringArea2 h ≤ 0) ∨ (ringArea2 shell ≤ 0 ∧ ∀ h ∈ holes, 0 ≤ ringArea2 h))
    (hz : ∀ r ∈ shell :: holes, ringArea2 r = 0 → ringWinding p r = 0) :
    pointInRings p (orientRings (shell :: holes)) = pointInRings p (shell :: holes) := by
  rcases hcons with ⟨h0, hneg⟩ | ⟨h0, hpos⟩
  · rw [orientRings_of_oriented h0 hneg]
  · unfold pointInRings
    rw [winding_eq_sum, winding_eq_sum, orientRings_sum_neg (ringWinding p) h0 hpos (fun r _ => ringWinding_reverse p r) hz,
      Bool.eq_iff_iff, bne_iff_ne, bne_iff_ne, neg_ne_zero]

theorem mem_flatten_map_reverse (rings : List (List Pt)) (p : Pt) :
    p ∈ (rings.map List.reverse).flatten ↔ p ∈ rings.flatten := by
  simp only [List.mem_flatten, List.mem_map, exists_exists_and_eq_and, List.mem_reverse]

/-- box-intersection results are unchanged: for a polygon with closed rings of non-zero area whose holes are wound opposite
to its shell (either way round) and lie within the shell's bounding box, `intersects_bounds` gives the same answer for the
oriented polygon, for every box of positive width and height -/
theorem C15_box_intersection_unchanged (bx : Box) (hx : bx.x0 ≠ bx.x1) (hy : bx.y0 ≠ bx.y1) (shell : List Pt)
    (holes : List (List Pt)) (hcl : ∀ r ∈ shell :: holes, Closed r) (hsh : bboxOf (shell :: holes).flatten = bboxOf shell)
    (hcons : (0 < ringArea2 shell ∧ ∀ h ∈ holes, ringArea2 h < 0) ∨ (ringArea2 shell < 0 ∧ ∀ h ∈ holes, 0 < ringArea2 h)) :
    polygonIB bx (orientRings (shell :: holes)) = polygonIB bx (shell :: holes) := by
  rcases hcons with ⟨h0, hneg⟩ | ⟨h0, hpos⟩
  · rw [orientRings_of_oriented h0.le fun h hm => (hneg h hm).le]
  · rw [orientRings_of_reversed h0 hpos]
    have px := orientBox_pos hx hy
    have hcl' : ∀ r ∈ (shell :: holes).map List.reverse, Closed r := fun r hr => by
      obtain ⟨r0, hr0, rfl⟩ := List.mem_map.1 hr
      exact closed_reverse (hcl r0 hr0)
    have hsh' : bboxOf ((shell :: holes).map List.reverse).flatten = bboxOf shell.reverse := by
      rw [bboxOf_congr _ _ (mem_flatten_map_reverse (shell :: holes)), bboxOf_congr shell.reverse shell fun p => List.mem_reverse, hsh]
    rw [polygonIB, polygonIB, Bool.eq_iff_iff, polygonIBcore_iff px.1 px.2 hcl hsh]
    refine (polygonIBcore_iff px.1 px.2 hcl' hsh').trans ?_
    exact exists_congr fun q => and_congr_right fun _ => polyPoint_map_reverse (shell :: holes) q

/-! non-vacuity: clockwise shell with a counter-clockwise hole (consistently wound, "the other way round") -/
example : orientRings [[(0,0),(0,6),(6,6),(6,0),(0,0)], [(1,1),(3,1),(3,3),(1,3),(1,1)]]
    = [[(0,0),(6,0),(6,6),(0,6),(0,0)], [(1,1),(1,3),(3,3),(3,1),(1,1)]] := by decide

end SpVerif
