/-!
# Layer H — Hilbert curve, word-level model of `spatialpandas/spatialindex/hilbert_curve.py`

Core Lean only (no Mathlib): this file is linked into the compiled driver.

`coordN p n h`  models `coordinate_from_distance(p, n, h)`  (general n, lists of words)
`distN  p X`    models `distance_from_coordinate(p, X)`     (general n)

The n = 2 specialisation on pairs (`coord2`, `dist2`) is what the C07 theorems are
stated about; `coordN_two` / `distN_two` (in `Lemmas/HilbertLink`) tie the two together.
Sizes are unbounded `Nat`; the code is int64 (np ≤ 62), see DESIGN §2.
-/
namespace SpVerif.Hilbert

/-! ## general n, as coded -/

/-- the number whose bit `e` is `f e` for `e < k` and which has no other bit set -/
def bitsum (k : Nat) (f : Nat → Bool) : Nat :=
  (List.range k).foldl (fun acc e => acc + (if f e then 2 ^ e else 0)) 0

/-- bit `j` (from the LSB) of word `i` of `_hilbert_integer_to_transpose(p, h, n)`:
`h_bits[i::n]` read MSB-first is bit `n*j + (n-1-i)` of `h`. -/
def transposeWord (p n i h : Nat) : Nat := bitsum p (fun j => h.testBit (n * j + (n - 1 - i)))

def toTranspose (p n h : Nat) : List Nat :=
  (List.range n).map (fun i => transposeWord p n i h)

/-- `_transpose_to_hilbert_integer(p, X)`: the bit string `concat[n*i + j] = bins[j][i]` (MSB first) read as an integer, i.e.
bit `e` of the result is bit `e / n` of word `n - 1 - e % n`. -/
def fromTranspose (p : Nat) (X : List Nat) : Nat :=
  let n := X.length
  bitsum (n * p) (fun e => (X.getD (n - 1 - e % n) 0).testBit (e / n))

/-- one `(Q = 2^q, i)` iteration of the "undo excess work" loops (identical in both routines) -/
def step (q i : Nat) (X : List Nat) : List Nat :=
  let P := 2 ^ q - 1
  if (X.getD i 0).testBit q then
    X.set 0 (X.getD 0 0 ^^^ P)
  else
    let t := (X.getD 0 0 ^^^ X.getD i 0) &&& P
    let X1 := X.set 0 (X.getD 0 0 ^^^ t)
    X1.set i (X1.getD i 0 ^^^ t)

/-- `t = X[n-1] >> 1; for i in n-1..1: X[i] ^= X[i-1]; X[0] ^= t` -/
def grayDecodeN (X : List Nat) : List Nat :=
  let n := X.length
  let t := X.getD (n - 1) 0 >>> 1
  (List.range n).map (fun i => if i = 0 then X.getD 0 0 ^^^ t else X.getD i 0 ^^^ X.getD (i - 1) 0)

/-- decode loop: `Q = 2, 4, …, 2^(p-1)`; inner `i = n-1 … 0` -/
def undoLoopN (n : Nat) : Nat → List Nat → List Nat
  | 0, X => X
  | 1, X => X
  | (p+2), X =>
    let Y := undoLoopN n (p+1) X
    (List.range n).reverse.foldl (fun Z i => step (p+1) i Z) Y

def coordN (p n h : Nat) : List Nat :=
  undoLoopN n p (grayDecodeN (toTranspose p n h))

/-- encode loop: `Q = 2^(p-1), …, 2`; inner `i = 0 … n-1` -/
def redoLoopN (n : Nat) : Nat → List Nat → List Nat
  | 0, X => X
  | 1, X => X
  | (p+2), X =>
    redoLoopN n (p+1) ((List.range n).foldl (fun Z i => step (p+1) i Z) X)

/-- `for i in 1..n-1: X[i] ^= X[i-1]` (ascending, cumulative) -/
def prefixXor : Nat → List Nat → List Nat
  | _, [] => []
  | acc, x :: xs => (x ^^^ acc) :: prefixXor (x ^^^ acc) xs

/-- `t = 0; Q = M; while Q > 1: if y & Q: t ^= Q-1; Q >>= 1` with `M = 2^q` -/
def tLoop : Nat → Nat → Nat → Nat
  | 0, t, _ => t
  | (q+1), t, y => tLoop q (if y.testBit (q+1) then t ^^^ (2 ^ (q+1) - 1) else t) y

def grayEncodeN (p : Nat) (X : List Nat) : List Nat :=
  let Y := prefixXor 0 X
  let t := tLoop (p - 1) 0 (Y.getD (Y.length - 1) 0)
  Y.map (fun y => y ^^^ t)

def distN (p : Nat) (X : List Nat) : Nat :=
  fromTranspose p (grayEncodeN p (redoLoopN X.length p X))

/-! ## n = 2 on pairs -/

abbrev W2 := Nat × Nat

/-- de-interleave: word 0 gets the odd bits of `h`, word 1 the even bits (p digits) -/
def transpose2 : Nat → Nat → W2
  | 0, _ => (0, 0)
  | (p+1), h =>
    let r := transpose2 p (h / 4)
    (2 * r.1 + (h / 2) % 2, 2 * r.2 + h % 2)

def untranspose2 : Nat → W2 → Nat
  | 0, _ => 0
  | (p+1), x => 4 * untranspose2 p (x.1 / 2, x.2 / 2) + 2 * (x.1 % 2) + x.2 % 2

def grayDecode2 (x : W2) : W2 := (x.1 ^^^ (x.2 >>> 1), x.2 ^^^ x.1)

/-- `i = 1` iteration at bit q -/
def stepA (q : Nat) (x : W2) : W2 :=
  if x.2.testBit q then (x.1 ^^^ (2 ^ q - 1), x.2)
  else
    let t := (x.1 ^^^ x.2) &&& (2 ^ q - 1)
    (x.1 ^^^ t, x.2 ^^^ t)

/-- `i = 0` iteration at bit q (the exchange branch has `t = 0`) -/
def stepB (q : Nat) (x : W2) : W2 :=
  if x.1.testBit q then (x.1 ^^^ (2 ^ q - 1), x.2) else x

def undoLoop2 : Nat → W2 → W2
  | 0, x => x
  | 1, x => x
  | (p+2), x => stepB (p+1) (stepA (p+1) (undoLoop2 (p+1) x))

def redoLoop2 : Nat → W2 → W2
  | 0, x => x
  | 1, x => x
  | (p+2), x => redoLoop2 (p+1) (stepA (p+1) (stepB (p+1) x))

def grayEncode2 (p : Nat) (x : W2) : W2 :=
  let y := x.2 ^^^ x.1
  let t := tLoop (p - 1) 0 y
  (x.1 ^^^ t, y ^^^ t)

def coord2 (p h : Nat) : W2 := undoLoop2 p (grayDecode2 (transpose2 p h))
def dist2 (p : Nat) (c : W2) : Nat := untranspose2 p (grayEncode2 p (redoLoop2 p c))

end SpVerif.Hilbert

namespace SpVerif.Hilbert

/-! ## reference: the classical quadrant recursion (specification side of C07, n = 2) -/

/-- place the order-`p` sub-curve `c` into quadrant `d` of the order-`p+1` square:
`0`: lower-left, transposed; `1`: upper-left; `2`: upper-right; `3`: lower-right, anti-transposed -/
def quad (p d : Nat) (c : W2) : W2 :=
  match d with
  | 0 => (c.2, c.1)
  | 1 => (c.1, 2 ^ p + c.2)
  | 2 => (2 ^ p + c.1, 2 ^ p + c.2)
  | _ => (2 ^ p + (2 ^ p - 1 - c.2), 2 ^ p - 1 - c.1)

def hilbertRec : Nat → Nat → W2
  | 0, _ => (0, 0)
  | (p+1), h => quad p (h / 4 ^ p) (hilbertRec p (h % 4 ^ p))

end SpVerif.Hilbert
